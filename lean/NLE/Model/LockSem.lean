/-
  `LockSem`: a reader/writer mutex as a state machine over the events of several goroutines, and the lemma the
  lock discipline of C20 rests on — two accesses by different goroutines that both hold the mutex, at least one of them
  exclusively, are separated by a release of the first goroutine followed by an acquisition of the second (the
  synchronisation edge of the Go memory model for sync.Mutex / sync.RWMutex).
-/
namespace NLE.LockSem

inductive Ev
  | acqW (g : Nat) | relW (g : Nat) | acqR (g : Nat) | relR (g : Nat)
  | acc (g : Nat) (write : Bool)
  deriving Repr, DecidableEq

structure LS where
  writer : Option Nat := none
  readers : List Nat := []
  deriving Repr, DecidableEq

def step (s : LS) : Ev → Option LS
  | .acqW g => if s.writer = none ∧ s.readers = [] then some { s with writer := some g } else none
  | .relW g => if s.writer = some g then some { s with writer := none } else none
  | .acqR g => if s.writer = none then some { s with readers := g :: s.readers } else none
  | .relR g => if g ∈ s.readers then some { s with readers := s.readers.erase g } else none
  | .acc _ _ => some s

def run (s : LS) : List Ev → Option LS
  | [] => some s
  | e :: es => match step s e with
    | some s' => run s' es
    | none => none

def holdsW (s : LS) (g : Nat) : Prop := s.writer = some g
def holds (s : LS) (g : Nat) : Prop := s.writer = some g ∨ g ∈ s.readers

/-- The mutex is never held exclusively and shared at once. -/
def Inv (s : LS) : Prop := ∀ g, s.writer = some g → s.readers = []

def isRelBy (g : Nat) (e : Ev) : Prop := e = .relW g ∨ e = .relR g
def isAcqBy (g : Nat) (e : Ev) : Prop := e = .acqW g ∨ e = .acqR g

theorem inv_init : Inv {} := by intro g h; simp at h

theorem step_inv {s s' : LS} {e : Ev} (inv : Inv s) (h : step s e = some s') : Inv s' := by
  cases e <;> simp only [step] at h <;> grind [Inv]

/-- Holding begins only with an acquisition … -/
theorem step_holds {s s' : LS} {e : Ev} {g : Nat} (h : step s e = some s') (hh : holds s' g) :
    holds s g ∨ isAcqBy g e := by
  cases e <;> simp only [step] at h <;> grind [holds, isAcqBy, List.mem_of_mem_erase]

theorem step_holdsW {s s' : LS} {e : Ev} {g : Nat} (h : step s e = some s') (hh : holdsW s' g) :
    holdsW s g ∨ e = .acqW g := by
  cases e <;> simp only [step] at h <;> grind [holdsW]

/-- … and ends only with a release. -/
theorem step_keep {s s' : LS} {e : Ev} {g : Nat} (h : step s e = some s') (hn : ¬ isRelBy g e) :
    (holds s g → holds s' g) ∧ (holdsW s g → holdsW s' g) := by
  cases e <;> simp only [step] at h <;> grind [holds, holdsW, isRelBy]

theorem run_cons {s s' : LS} {e : Ev} {es : List Ev} :
    run s (e :: es) = some s' ↔ ∃ s1, step s e = some s1 ∧ run s1 es = some s' := by
  simp only [run]; cases step s e <;> simp

/-- What every accepted step on an event of kind `A` preserves holds at the end of an accepted run of such events. -/
theorem run_preserves {P : LS → Prop} {A : Ev → Prop} (hstep : ∀ {s s' e}, A e → step s e = some s' → P s → P s')
    {s s' : LS} (evs : List Ev) (h : run s evs = some s') (hA : ∀ e ∈ evs, A e) (hp : P s) : P s' := by
  induction evs generalizing s with
  | nil => cases h; exact hp
  | cons e es ih =>
    obtain ⟨s1, h1, h2⟩ := run_cons.1 h
    obtain ⟨ha, hA⟩ := List.forall_mem_cons.1 hA
    exact ih h2 hA (hstep ha h1 hp)

theorem run_inv {s s' : LS} (inv : Inv s) (evs : List Ev) (h : run s evs = some s') : Inv s' :=
  run_preserves (A := fun _ => True) (fun _ h1 i => step_inv i h1) evs h (fun _ _ => trivial) inv

theorem run_append {s s' : LS} (a b : List Ev) (h : run s (a ++ b) = some s') : ∃ sm, run s a = some sm ∧ run sm b = some s' := by
  induction a generalizing s with
  | nil => exact ⟨s, rfl, h⟩
  | cons e es ih =>
    obtain ⟨s1, h1, h2⟩ := run_cons.1 h
    obtain ⟨sm, h3, h4⟩ := ih h2
    exact ⟨sm, run_cons.2 ⟨s1, h1, h3⟩, h4⟩

/-- While a holder does not release, it stays a holder, in the same mode. -/
theorem keep {s s' : LS} {g : Nat} (evs : List Ev) (h : run s evs = some s') (hno : ∀ e ∈ evs, ¬ isRelBy g e) :
    (holds s g → holds s' g) ∧ (holdsW s g → holdsW s' g) :=
  ⟨run_preserves (fun ha h1 => (step_keep h1 ha).1) evs h hno, run_preserves (fun ha h1 => (step_keep h1 ha).2) evs h hno⟩

/-- A property of the state that only an event of kind `Q` can bring about, that fails at first and holds later:
    an event of kind `Q` has happened in between. -/
theorem needEvent {P : LS → Prop} {Q : Ev → Prop} (hstep : ∀ {s s' e}, step s e = some s' → P s' → P s ∨ Q e)
    {s s' : LS} (hn : ¬ P s) (evs : List Ev) (h : run s evs = some s') (hh : P s') : ∃ q ∈ evs, Q q :=
  Classical.byContradiction fun hno =>
    run_preserves (P := (¬ P ·)) (fun hq h1 hn hp => (hstep h1 hp).elim hn hq) evs h (fun e he hq => hno ⟨e, he, hq⟩) hn hh

/-- Mutual exclusion, read off the invariant. -/
theorem mutex {s : LS} {x y : Nat} (inv : Inv s) (hx : holdsW s x) (hy : holds s y) : x = y := by
  rcases hy with hy | hy
  · exact Option.some.inj (hx.symm.trans hy)
  · rw [inv x hx] at hy; cases hy

/-- A release leaves the mutex without a writer, and without anybody if the releasing goroutine held it exclusively. -/
theorem step_rel {s s' : LS} {e : Ev} {g : Nat} (inv : Inv s) (h : step s e = some s') (hr : isRelBy g e) :
    s'.writer = none ∧ (holdsW s g → s'.readers = []) := by
  rcases hr with rfl | rfl <;> simp only [step] at h
  · grind [Inv, holdsW]
  · split at h
    · rename_i hg
      cases hw : s.writer with
      | none => cases h; simp [holdsW, hw]
      | some w => rw [inv w hw] at hg; cases hg
    · cases h

/-- Either no element satisfies `p`, or the list splits at the first one that does. -/
theorem splitFirst {α : Type} (p : α → Prop) (l : List α) :
    (∀ e ∈ l, ¬ p e) ∨ ∃ a r b, l = a ++ r :: b ∧ p r ∧ ∀ e ∈ a, ¬ p e := by
  induction l with
  | nil => exact .inl nofun
  | cons x xs ih =>
    by_cases hx : p x
    · exact .inr ⟨[], x, xs, rfl, hx, nofun⟩
    · rcases ih with h | ⟨a, r, b, rfl, hr, ha⟩
      · exact .inl (List.forall_mem_cons.2 ⟨hx, h⟩)
      · exact .inr ⟨x :: a, r, b, rfl, hr, List.forall_mem_cons.2 ⟨hx, ha⟩⟩

/-- **Mutual exclusion orders conflicting accesses.**  `s1` is the mutex state at the first access (goroutine `g1`),
    `mid` the events up to the second access (goroutine `g2 ≠ g1`) where the state is `s2`.  If both goroutines hold the
    mutex at their access and at least one of them holds it exclusively, then `mid` contains a release by `g1` followed
    by an acquisition by `g2`. -/
theorem conflicting_accesses_ordered {s1 s2 : LS} {g1 g2 : Nat} (inv : Inv s1) (mid : List Ev) (hrun : run s1 mid = some s2)
    (h1 : holds s1 g1) (h2 : holds s2 g2) (hne : g1 ≠ g2) (hex : holdsW s1 g1 ∨ holdsW s2 g2) :
    ∃ a r b q c, mid = a ++ r :: (b ++ q :: c) ∧ isRelBy g1 r ∧ isAcqBy g2 q := by
  rcases splitFirst (isRelBy g1) mid with hnone | ⟨a, r, b, rfl, hr, ha⟩
  · -- without a release `g1` still holds at `s2`, as it did at `s1`: both hold, one of them exclusively
    have k := keep mid hrun hnone
    have inv2 := run_inv inv mid hrun
    rcases hex with hw | hw
    · exact absurd (mutex inv2 (k.2 hw) h2) hne
    · exact absurd (mutex inv2 hw (k.1 h1)).symm hne
  · obtain ⟨sa, ra, rb⟩ := run_append a (r :: b) hrun
    obtain ⟨sb, hsb, rb⟩ := run_cons.1 rb
    have k := keep a ra ha
    obtain ⟨hw0, hr0⟩ := step_rel (run_inv inv a ra) hsb hr
    -- right after the release `g2` does not hold the mutex in the mode it holds it in at `s2`
    have ⟨q, hqb, hq⟩ : ∃ q ∈ b, isAcqBy g2 q := by
      rcases hex with hw | hw
      · exact needEvent step_holds (by simp [holds, hw0, hr0 (k.2 hw)]) b rb h2
      · exact (needEvent step_holdsW (by simp [holdsW, hw0]) b rb hw).imp fun q hq => ⟨hq.1, .inl hq.2⟩
    obtain ⟨a', c, rfl⟩ := List.append_of_mem hqb
    exact ⟨a, r, a', q, c, rfl, hr, hq⟩

end NLE.LockSem
