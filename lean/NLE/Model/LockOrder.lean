/-
  `LockOrder`: why a ranked acquisition order excludes deadlock among mutexes.

  A snapshot of the goroutines of a process: which mutexes each one holds and which one (if any) it is blocked on.
  Goroutine `a` waits for goroutine `b` when the mutex `a` is blocked on is held by `b` (for a reader/writer mutex
  this over-approximates: two readers do not block each other).  A deadlock among mutexes is a cycle of this
  relation.  If every goroutine only ever requests a mutex ranked strictly above all the mutexes it holds, there is no
  cycle — in particular no goroutine re-acquires a mutex it holds.

  The tie to the code is the regenerated table `Gen.lockOrder` (every acquisition reached while a mutex may be held,
  over all paths and call sites) and the theorems of `Theorems/C11.lean` that rank it.
-/
namespace NLE.LockOrder

structure Snap where
  holds : Nat → List Nat          -- goroutine ↦ mutexes it holds
  wants : Nat → Option Nat        -- goroutine ↦ the mutex it is blocked on

def waitsFor (s : Snap) (a b : Nat) : Prop := ∃ m, s.wants a = some m ∧ m ∈ s.holds b

/-- The discipline: a request is ranked strictly above everything the requester holds. -/
def Ranked (rank : Nat → Nat) (s : Snap) : Prop :=
  ∀ g m, s.wants g = some m → ∀ h, h ∈ s.holds g → rank h < rank m

/-- A non-empty chain of waits `a → … → c`. -/
inductive Chain (s : Snap) : Nat → Nat → Prop
  | one {a b : Nat} : waitsFor s a b → Chain s a b
  | cons {a b c : Nat} : waitsFor s a b → Chain s b c → Chain s a c

/-- Along a chain of waits the rank of the requested mutex strictly increases, so the request of the first goroutine
    is ranked no higher than the mutex of the last one that the chain ends in. -/
theorem chain_rank {rank : Nat → Nat} {s : Snap} (hr : Ranked rank s) {a c : Nat} (h : Chain s a c) :
    ∃ m, s.wants a = some m ∧ ∃ x ∈ s.holds c, rank m ≤ rank x := by
  induction h with
  | one w =>
    obtain ⟨m, hm, hh⟩ := w
    exact ⟨m, hm, m, hh, Nat.le_refl _⟩
  | cons w _ ih =>
    obtain ⟨m, hm, hh⟩ := w
    obtain ⟨mb, hb, x, hx, hle⟩ := ih
    exact ⟨m, hm, x, hx, Nat.le_trans (Nat.le_of_lt (hr _ _ hb _ hh)) hle⟩

/-- No deadlock: under the discipline no goroutine waits, directly or through others, for itself. -/
theorem no_deadlock {rank : Nat → Nat} {s : Snap} (hr : Ranked rank s) : ¬ ∃ g, Chain s g g := by
  rintro ⟨g, h⟩
  obtain ⟨m, hm, x, hx, hle⟩ := chain_rank hr h
  exact Nat.not_lt.2 hle (hr _ _ hm _ hx)

/-- Non-vacuity: two goroutines taking two mutexes in opposite orders do deadlock (and are not ranked by anything). -/
def inverted : Snap := { holds := fun g => if g = 0 then [0] else if g = 1 then [1] else [],
                         wants := fun g => if g = 0 then some 1 else if g = 1 then some 0 else none }

example : Chain inverted 0 0 :=
  .cons (b := 1) ⟨1, rfl, .head _⟩ (.one ⟨0, rfl, .head _⟩)

example (rank : Nat → Nat) : ¬ Ranked rank inverted :=
  fun h => Nat.lt_asymm (h 0 1 rfl 0 (.head _)) (h 1 0 rfl 1 (.head _))

/-- … and the same two goroutines taking them in one order are ranked. -/
def ordered : Snap := { holds := fun g => if g = 0 then [0] else if g = 1 then [0, 1] else [],
                        wants := fun g => if g = 0 then some 1 else none }

example : Ranked id ordered := by
  intro g m hw h hh
  simp only [ordered] at hw hh
  split at hw
  · cases hw; simp_all
  · cases hw

end NLE.LockOrder
