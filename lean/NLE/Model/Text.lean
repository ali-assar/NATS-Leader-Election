/-
  Text utilities shared by the models: Go's `strings.ToLower` restricted to what can
  influence a match against an ASCII pattern, and `strings.Contains` on `List Char`.
-/
namespace NLE.Text

/-- `unicode.ToLower` as far as ASCII results are concerned: ASCII upper-case letters, plus the two
    non-ASCII runes whose lower case is an ASCII letter (U+0130 → 'i', U+212A KELVIN SIGN → 'k').
    Every other rune is left alone: it may change under Go's ToLower, but never into an ASCII
    character, so it cannot take part in a match of an ASCII pattern.  The harness checks this table
    against Go's `unicode.ToLower` for all 0x110000 code points. -/
def lowerChar (c : Char) : Char :=
  if c.val = 0x130 then 'i'
  else if c.val = 0x212A then 'k'
  else c.toLower

def lower (s : List Char) : List Char := s.map lowerChar

def isPrefix : List Char → List Char → Bool
  | [], _ => true
  | _ :: _, [] => false
  | p :: ps, c :: cs => p == c && isPrefix ps cs

/-- `strings.Contains(hay, pat)`. -/
def containsSub (hay pat : List Char) : Bool :=
  match hay with
  | [] => pat.isEmpty
  | c :: cs => isPrefix pat (c :: cs) || containsSub cs pat

/-- `strings.Contains(strings.ToLower(text), pat)` for an ASCII lower-case pattern. -/
def matchesCI (text : List Char) (pat : String) : Bool :=
  containsSub (lower text) pat.toList

theorem lower_append (a b : List Char) : lower (a ++ b) = lower a ++ lower b :=
  List.map_append

theorem isPrefix_iff {p l : List Char} : isPrefix p l = true ↔ p <+: l := by
  induction p generalizing l with
  | nil => simp [isPrefix]
  | cons x xs ih => cases l <;> simp [isPrefix, ih, List.cons_prefix_cons]

/-- `containsSub` is `strings.Contains`: the pattern occurs as a contiguous part of the text. -/
theorem containsSub_iff {hay pat : List Char} : containsSub hay pat = true ↔ pat <:+: hay := by
  induction hay with
  | nil => simp [containsSub]
  | cons c cs ih => simp [containsSub, isPrefix_iff, ih, List.infix_cons_iff]

theorem containsSub_append_left (a p b : List Char) (h : containsSub p b = true) :
    containsSub (a ++ p) b = true :=
  containsSub_iff.2 ((containsSub_iff.1 h).trans (List.suffix_append a p).isInfix)

/-- If the text is `a ++ p ++ b` then it contains `p`. -/
theorem containsSub_mid (a p b : List Char) : containsSub (a ++ (p ++ b)) p = true :=
  containsSub_iff.2 (List.infix_append' a p b)

theorem containsSub_append_right (a b p : List Char) (h : containsSub a p = true) :
    containsSub (a ++ b) p = true :=
  containsSub_iff.2 ((containsSub_iff.1 h).trans (List.prefix_append a b).isInfix)

theorem matchesCI_append_left (a : List Char) {t : List Char} {p : String} (h : matchesCI t p = true) :
    matchesCI (a ++ t) p = true := by
  unfold matchesCI at *
  rw [lower_append]; exact containsSub_append_left _ _ _ h

theorem matchesCI_append_right {t : List Char} (b : List Char) {p : String} (h : matchesCI t p = true) :
    matchesCI (t ++ b) p = true := by
  unfold matchesCI at *
  rw [lower_append]; exact containsSub_append_right _ _ _ h

end NLE.Text
