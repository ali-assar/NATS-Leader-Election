import NLE.Proofs.LifeStep
import NLE.Proofs.Fold
/-
  Invariants of the lifecycle model `Life`, per instance.
-/
namespace NLE.Life

def b2n (b : Bool) : Nat := if b then 1 else 0
def o2n {α} (o : Option α) : Nat := if o.isSome then 1 else 0

/-- Per-instance invariant. -/
structure LInv (x : Inst) : Prop where
  /-- outside critical sections the flag is raised exactly in state LEADER -/
  coherent : x.pendingFlag = none → x.stopPendingTrans = false → (x.flag = true ↔ x.state = 2)
  /-- inside the critical section of a promotion the flag is still down; in the one of a demotion the state already changed -/
  pendTrue : x.pendingFlag = some true → x.flag = false ∧ x.state = 2
  pendFalse : x.pendingFlag = some false → (x.state = 3 ∧ (x.running = true ∨ x.ctxCancelled = true)) ∨ x.state = 5
  /-- documented states only -/
  states : x.state = 0 ∨ x.state = 1 ∨ x.state = 2 ∨ x.state = 3 ∨ x.state = 5
  /-- callback bookkeeping: promotions started or owed = demotions started or owed + (flag raised) -/
  balance : x.callbacks = true → x.promotes + o2n x.promoOwed = x.demotes + x.demoteOwed + x.stopDemoteOwed + b2n x.flag
  noCb : x.callbacks = false → x.promoOwed = none ∧ x.demoteOwed = 0 ∧ x.stopDemoteOwed = 0
  /-- at most one demotion is owed, and none while the flag is raised -/
  atMostOne : x.demoteOwed + x.stopDemoteOwed + b2n x.flag ≤ 1
  /-- a raised flag (or a promotion in progress) needs a running election -/
  leadRunning : (x.flag = true ∨ x.pendingFlag = some true) → x.running = true ∨ x.stopPendingTrans = true ∨ x.pendingFlag = some false ∨ x.ctxCancelled = true
  /-- after a stop call's critical section, until the next Start: STOPPED and not leader -/
  stopped : x.everStopped = true → x.stopPendingTrans = false → x.pendingFlag = none → x.state = 5 ∧ x.flag = false
  stopNotRunning : x.everStopped = true → x.running = false
  pendingStop : x.stopPendingTrans = true → x.pendingFlag = none ∧ x.running = false ∧ x.stops ≠ []
  /-- while a promotion callback is owed, its term is either in progress or its demotion is owed -/
  owedTerm : x.promoOwed.isSome = true → x.demoteOwed + x.stopDemoteOwed + b2n x.flag = 1
  /-- a promotion context whose term is not over belongs to the term in progress -/
  ctxLive : ∀ c ∈ x.ctxs, c.termOver = false → x.flag = true ∧ x.termTok = c.tok
  /-- a run whose context was cancelled by the caller is neither running nor stopped by a stop call -/
  cancelled : x.ctxCancelled = true → x.everStopped = false ∧ x.running = false ∧ x.stopPendingTrans = false

theorem linv_init (id : Nat) (cb : Bool) : LInv { id := id, callbacks := cb } := by
  constructor <;> simp [b2n, o2n]

/-
  Preservation.  Every handler changes a few fields, and a clause of `LInv` that mentions none of them holds of the
  new record by unfolding alone: `{ inv with … }` passes those clauses on and lists the ones that need an argument.
-/

theorem clearFlag_inv {x : Inst} (inv : LInv x) (h : x.pendingFlag = some false ∨ (x.pendingFlag = none ∧ ¬ (x.flag = true ∧ (x.running = true ∨ x.ctxCancelled = true)))) :
    LInv (clearFlag x) := by
  unfold clearFlag
  exact { inv with
    -- the state is not LEADER: a demotion has recorded FOLLOWER or STOPPED; otherwise a LEADER state would come with
    -- a raised flag, which `leadRunning` and `h` exclude
    coherent := by have := inv.coherent; have := inv.pendFalse; have := inv.leadRunning; grind
    pendTrue := nofun
    pendFalse := nofun
    -- the unit the flag contributed moves to `demoteOwed` or `stopDemoteOwed` (callbacks registered) or is dropped
    balance := by have := inv.balance; grind [b2n]
    noCb := by have := inv.noCb; grind
    atMostOne := by have := inv.atMostOne; grind [b2n]
    owedTerm := by have := inv.owedTerm; have := inv.noCb; grind [b2n]
    leadRunning := fun h => h.elim nofun nofun
    -- after a stop call FOLLOWER cannot have been recorded: that needs a run or a cancelled context
    stopped := by have := inv.stopped; have := inv.pendFalse; have := inv.stopNotRunning; have := inv.cancelled; grind
    pendingStop := fun h => ⟨rfl, (inv.pendingStop h).2⟩
    ctxLive := by have := inv.ctxLive; grind }

theorem stepTrans_inv {x x' : Inst} {f t : Nat} (inv : LInv x) (h : stepTrans x f t = .ok x') : LInv x' := by
  obtain ⟨hp, -, h⟩ := stepTrans_ok h
  rcases h with ⟨-, hr, hfl, rfl⟩ | ⟨-, hr, hs, hfl, rfl⟩ | ⟨-, hg, rfl⟩ | ⟨-, hs, rfl⟩
  · exact { inv with
      coherent := nofun
      pendTrue := fun _ => ⟨hfl, rfl⟩
      pendFalse := nofun
      states := .inr (.inr (.inl rfl))
      leadRunning := fun _ => .inl hr
      stopped := nofun
      pendingStop := by have := inv.pendingStop; grind }
  · exact { inv with
      coherent := by grind
      pendTrue := by grind
      pendFalse := by grind
      states := .inr (.inr (.inr (.inl rfl)))
      stopped := by grind }
  · exact { inv with
      coherent := nofun
      pendTrue := nofun
      pendFalse := by grind
      states := .inr (.inr (.inr (.inl rfl)))
      leadRunning := fun _ => .inr (.inr (.inl rfl))
      stopped := nofun
      pendingStop := by have := inv.pendingStop; have := inv.cancelled; grind }
  · exact { inv with
      coherent := nofun
      pendTrue := nofun
      pendFalse := fun _ => .inr rfl
      states := .inr (.inr (.inr (.inr rfl)))
      leadRunning := fun _ => .inr (.inr (.inl rfl))
      stopped := nofun
      pendingStop := nofun
      cancelled := by have := inv.cancelled; grind }

theorem stepFlag_inv {x x' : Inst} {b il : Bool} {tok lid : Nat} (inv : LInv x) (h : stepFlag x b il tok lid = .ok x') : LInv x' := by
  obtain ⟨-, ⟨-, hp, -, ho, hd, hs, rfl⟩ | ⟨-, hg, rfl⟩⟩ := stepFlag_ok h
  · have ⟨hf, h2⟩ := inv.pendTrue hp
    exact { inv with
      coherent := fun _ _ => ⟨fun _ => h2, fun _ => rfl⟩
      pendTrue := nofun
      pendFalse := nofun
      balance := by have := inv.balance; grind [b2n, o2n]
      noCb := by grind
      atMostOne := by simp [hd, hs, b2n]
      owedTerm := by simp [hd, hs, b2n]
      leadRunning := by have := inv.leadRunning; grind
      stopped := by have := inv.leadRunning; have := inv.stopNotRunning; have := inv.cancelled; grind
      pendingStop := by have := inv.pendingStop; grind
      ctxLive := by have := inv.ctxLive; grind }
  · exact clearFlag_inv inv hg

theorem stepPromote_inv {x x' : Inst} {tok cid : Nat} {dn : Bool} (inv : LInv x) (h : stepPromote x tok cid dn = .ok x') : LInv x' := by
  obtain ⟨hp, -, rfl⟩ := stepPromote_ok h
  exact { inv with
    balance := by have := inv.balance; grind [o2n]
    noCb := by have := inv.noCb; grind
    owedTerm := nofun
    ctxLive := by have := inv.ctxLive; grind }

theorem stepDemote_inv {x x' : Inst} (inv : LInv x) (h : stepDemote x = .ok x') : LInv x' := by
  obtain ⟨-, hp, h⟩ := stepDemote_ok h
  have hb := inv.balance; have hn := inv.noCb; have h1 := inv.atMostOne
  rcases h with ⟨hd, rfl⟩ | ⟨-, hd, rfl⟩
  all_goals exact { inv with
      balance := fun hc => by have := hb hc; simp only; omega
      noCb := fun hc => by have := hn hc; simp only; omega
      atMostOne := by simp only; omega
      owedTerm := fun hc => by simp [hp] at hc }

theorem ctxs_map_inv {x : Inst} (inv : LInv x) (g : Ctx → Ctx) (hg : ∀ c, (g c).termOver = c.termOver ∧ (g c).tok = c.tok) :
    LInv { x with ctxs := x.ctxs.map g } :=
  { inv with
    ctxLive := by
      intro c hc hto
      obtain ⟨c0, hc0, rfl⟩ := List.mem_map.1 hc
      rw [(hg c0).1] at hto
      rw [(hg c0).2]
      exact inv.ctxLive c0 hc0 hto }

theorem stepInst_inv {x x' : Inst} {e : Ev} (inv : LInv x) (h : stepInst x e = .ok x') : LInv x' := by
  unfold stepInst at h
  split at h
  · exact stepTrans_inv inv h
  · exact stepFlag_inv inv h
  · exact stepPromote_inv inv h
  · cases h
    exact ctxs_map_inv inv _ fun c => by split <;> exact ⟨rfl, rfl⟩
  · rw [(stepCtxDone_ok h).2]
    exact ctxs_map_inv inv _ fun c => by split <;> exact ⟨rfl, rfl⟩
  · exact stepDemote_inv inv h
  · cases h; exact { inv with }
  · split at h
    · cases h
    · cases h; exact inv
  · cases h; exact inv

/-- A stop call begins (not refused): the election stops running; the call's critical section follows. -/
theorem stopBegin_inv {x : Inst} (inv : LInv x) (hp : x.pendingFlag = none) (n : Nat) :
    LInv { x with stops := { n := n, wasLeader := x.flag } :: x.stops, running := false, everStopped := true, stopPendingTrans := true, startFailed := false, ctxCancelled := false } :=
  { inv with
    coherent := fun _ => nofun
    pendFalse := by grind
    leadRunning := fun _ => .inr (.inl rfl)
    stopped := fun _ => nofun
    stopNotRunning := fun _ => rfl
    pendingStop := fun _ => ⟨hp, rfl, List.cons_ne_nil _ _⟩
    cancelled := nofun }

/-- A Start that failed half-way changes nothing the invariant speaks about. -/
theorem startFail_inv {x : Inst} (inv : LInv x) : LInv { x with ctxNil := false, startFailed := true } :=
  { inv with }

/-- The caller's context is cancelled: nothing runs any more; a raised flag is about to be cleared by `stepDown`. -/
theorem cancelCtx_inv {x : Inst} (inv : LInv x) (hp : x.pendingFlag = none) (hr : x.running = true) :
    LInv { x with running := false, ctxCancelled := true, ctxs := x.ctxs.map fun c => { c with termOver := true } } :=
  { inv with
    pendFalse := by grind
    leadRunning := fun _ => .inr (.inr (.inr rfl))
    stopNotRunning := fun _ => rfl
    pendingStop := by have := inv.pendingStop; grind
    ctxLive := by grind
    cancelled := by have := inv.stopNotRunning; have := inv.pendingStop; grind }

theorem startRet_inv {x : Inst} (inv : LInv x) (hf : x.flag = false) (hp : x.pendingFlag = none) (hs : x.stopPendingTrans = false) :
    LInv { x with running := true, everStopped := false, ctxNil := false, ctxCancelled := false, state := 1 } :=
  { inv with
    coherent := by grind
    pendTrue := by grind
    pendFalse := by grind
    states := .inr (.inl rfl)
    leadRunning := fun _ => .inl rfl
    stopped := nofun
    stopNotRunning := nofun
    pendingStop := by grind
    cancelled := nofun }

theorem stopRet_inv {x : Inst} (inv : LInv x)
    (hs : x.stopPendingTrans = true → ∀ c : StopCall, x.stops.head? = some c → ¬ c.n = n) (d : Bool) :
    LInv { x with stops := x.stops.filter (·.n ≠ n), ctxNil := x.ctxNil || d } :=
  { inv with
    pendingStop := fun hp => by
      obtain ⟨h1, h2, h3⟩ := inv.pendingStop hp
      refine ⟨h1, h2, ?_⟩
      cases hst : x.stops with
      | nil => exact absurd hst h3
      | cons c rest => simp [List.filter, hs hp c (by simp [hst])] }

/-- A stop call that found the election already stopped (e.ctx == nil) did nothing. -/
theorem rollback_inv {x : Inst} (inv : LInv x) (h5 : x.state = 5) (hf : x.flag = false) (hp : x.pendingFlag = none) (n : Nat) :
    LInv { x with stops := x.stops.filter (·.n ≠ n), stopPendingTrans := false } :=
  { inv with
    coherent := by grind
    leadRunning := by grind
    stopped := fun _ _ _ => ⟨h5, hf⟩
    pendingStop := nofun
    cancelled := fun h => ⟨(inv.cancelled h).1, (inv.cancelled h).2.1, rfl⟩ }

def SysInv (s : Sys) : Prop := ∀ x ∈ s.st.insts, LInv x

theorem get_mem {st : State} {i : Nat} {x : Inst} (h : st.get i = some x) : x ∈ st.insts :=
  List.mem_of_find?_eq_some h

theorem set_inv {st : State} (h : ∀ x ∈ st.insts, LInv x) {x' : Inst} (hx' : LInv x') : ∀ y ∈ (st.set x').insts, LInv y := by
  intro y hy
  simp only [State.set, List.mem_map] at hy
  obtain ⟨y0, hy0, rfl⟩ := hy
  split
  · exact hx'
  · exact h y0 hy0

theorem sys_init : SysInv {} := by intro x hx; simp at hx

theorem step_inv {s s' : Sys} {e : TEv} (inv : SysInv s) (h : step s e = .ok s') : SysInv s' := by
  simp only [step, guards] at h
  obtain ⟨-, rfl⟩ | ⟨-, h⟩ := h
  · exact inv
  split at h
  · cases h; exact inv
  · cases h
    intro x hx
    rcases List.mem_append.1 hx with hx | hx
    · exact inv x hx
    · rw [List.mem_singleton.1 hx]; exact linv_init _ _
  · -- api
    split at h
    · cases h; exact inv
    rename_i x hx
    have hxi := inv x (get_mem hx)
    simp only [reject, guards] at h
    obtain ⟨hp, h⟩ := h
    split at h <;> simp only [guards] at h
    case h_1 | h_2 =>
      rcases h with ⟨-, rfl⟩ | ⟨-, rfl⟩
      · exact inv
      · exact set_inv inv (stopBegin_inv hxi hp _)
    · cases h; exact inv
  · -- cancelCtx
    split at h
    · cases h; exact inv
    rename_i x hx
    simp only [reject, guards] at h
    obtain ⟨hp, ⟨hr, rfl⟩ | ⟨-, rfl⟩⟩ := h
    · exact set_inv inv (cancelCtx_inv (inv x (get_mem hx)) hp hr)
    · exact inv
  · -- apiRet
    split at h
    · rename_i k x hc hx
      have hxi := inv x (get_mem hx)
      split at h <;> simp only [reject, guards] at h
      · obtain ⟨-, ⟨hf, hp, hs⟩, rfl⟩ := h
        exact set_inv inv (startRet_inv hxi hf hp hs)
      · rcases h with ⟨-, rfl⟩ | ⟨-, rfl⟩
        · exact inv
        · exact set_inv inv (startFail_inv hxi)
      · cases h; exact inv
      case h_4 | h_5 =>
        split at h <;> simp only [guards] at h
        · rcases h with ⟨hrb, rfl⟩ | ⟨-, hg, rfl⟩
          · exact set_inv inv (rollback_inv hxi hrb.2.2.1 hrb.2.2.2.1 hrb.2.2.2.2 _)
          · exact set_inv inv (stopRet_inv hxi (by simpa using hg.2) _)
        · cases h.2; exact inv
      · cases h; exact inv
    · cases h; exact inv
  · -- per-instance events
    split at h
    · cases h; exact inv
    split at h
    · cases h; exact inv
    rename_i x hx
    cases hx' : stepInst x e.ev <;> simp only [hx', bind, Except.bind, guards] at h
    cases h
    exact set_inv inv (stepInst_inv (inv x (get_mem hx)) hx')
theorem run_inv {s s' : Sys} (inv : SysInv s) (evs : List TEv) (h : run s evs = .ok s') : SysInv s' :=
  Fold.except_inv (fun _ => rfl) (fun _ _ _ => rfl) step_inv evs inv h

end NLE.Life
