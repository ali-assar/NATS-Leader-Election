import NLE.Model.Lease
import NLE.Proofs.Fold
import NLE.Proofs.Guard
/-
  The lease invariant: every claimant's record is the live one and will be refreshed before it can expire.
-/
namespace NLE.Lease

structure LInv (s : State) : Prop where
  members : ∀ m ∈ s.members, validCfg m.2 s.ttl
  noMembers : s.members = [] → s.claims = []
  backed : ∀ c ∈ s.claims, ∃ a, s.record = some (c.inst, a) ∧ c.deadline = a + 2 * c.hb ∧ s.now ≤ c.deadline ∧ validCfg c.hb s.ttl

/-- The rules of the model, as a relation: what an accepted event does once the clock has advanced.  Which event it
    was is forgotten, except for a lowered flag. -/
inductive Eff (e : TEv) (s : State) : State → Prop
  | ops (o : List (Nat × Nat × OpKind × Bool)) : Eff e s { s with ops := o }
  | create (j : Nat) : s.record = none → Eff e s { s with record := some (j, s.now), acked := (j, s.now) :: s.acked }
  | refresh (i a : Nat) : s.record = some (i, a) →
      Eff e s { s with record := some (i, s.now),
                       claims := s.claims.map fun c => if c.inst = i then { c with deadline := s.now + 2 * c.hb } else c }
  | delete (i a : Nat) : s.claims? i = false → s.record = some (i, a) → Eff e s { s with record := none }
  | expire (o a : Nat) : s.record = some (o, a) → a + s.ttl ≤ s.now → Eff e s { s with record := none }
  | raise (j h a : Nat) : s.hbOf j = some h → s.record = some (j, a) → s.now ≤ a + h / 2 →
      Eff e s { s with claims := { inst := j, hb := h, deadline := a + 2 * h } :: s.claims.filter (·.inst ≠ j),
                       acked := s.acked.filter (·.1 ≠ j) }
  | lower (i : Nat) {b : Bool} {tok lid : Nat} : e.ev = .flag i b false tok lid → Eff e s (lower s i)

/-! Each operation of the model, when it is accepted, follows its rule. -/

section
variable {e : TEv} {s s' : State}

theorem advance_ok {t : Nat} (h : advance s t = .ok s') :
    s.now ≤ t ∧ (∀ c ∈ s.claims, t ≤ c.deadline) ∧ s' = { s with now := t } := by
  cases hf : s.claims.find? (fun c => decide (c.deadline < t)) <;> simp only [advance, hf, reject, guards] at h
  exact ⟨h.1, fun c hc => by simpa using List.find?_eq_none.mp hf c hc, h.2⟩

theorem applyCreate_ok {j : Nat} (h : applyCreate s j = .ok s') :
    s.record = none ∧ s' = { s with record := some (j, s.now), acked := (j, s.now) :: s.acked } := by
  cases hr : s.record <;> simp only [applyCreate, hr, reject, guards] at h
  exact ⟨rfl, h⟩

theorem applyCreate_eff {j : Nat} (h : applyCreate s j = .ok s') : Eff e s s' :=
  (applyCreate_ok h).2 ▸ .create _ (applyCreate_ok h).1

theorem applyRefresh_eff {i : Nat} (h : applyRefresh s i = .ok s') : Eff e s s' := by
  cases hr : s.record <;> simp only [applyRefresh, hr, reject, guards] at h
  obtain ⟨rfl, rfl⟩ := h
  exact .refresh _ _ hr

theorem applyDelete_eff {i : Nat} (h : applyDelete s i = .ok s') : Eff e s s' := by
  cases hr : s.record <;> simp only [applyDelete, hr, reject, guards] at h
  · exact h.2 ▸ .ops _
  · obtain ⟨hnc, rfl, rfl⟩ := h
    exact .delete _ _ hnc hr

theorem expire_ok (h : expire s = .ok s') :
    ∃ o a, s.record = some (o, a) ∧ a + s.ttl ≤ s.now ∧ s' = { s with record := none } := by
  cases hr : s.record <;> simp only [expire, hr, reject, guards] at h
  exact ⟨_, _, rfl, h⟩

theorem expire_eff (h : expire s = .ok s') : Eff e s s' := by
  obtain ⟨o, a, hr, hexp, rfl⟩ := expire_ok h
  exact .expire o a hr hexp

theorem raise_eff {j hb : Nat} (hh : s.hbOf j = some hb) (h : raise s j hb = .ok s') : Eff e s s' := by
  cases ha : s.acked.find? (·.1 = j) <;> simp only [raise, ha, reject, guards] at h
  obtain ⟨hrec, hlate, rfl⟩ := h
  exact .raise _ _ _ hh hrec hlate
/-- The one case analysis of `step`: configuration events leave the lease alone; every other event advances the
    clock, not past a claimant's deadline, and then follows one of the rules. -/
theorem step_cases (h : step s e = .ok s') :
    (∃ b, s' = { s with ended := b }) ∨
    (∃ c : InstCfg, s.members = [] ∧ validCfg c.hb c.storeTTL ∧
      s' = { s with key := c.key, ttl := c.storeTTL, members := [(c.id, c.hb)] }) ∨
    (∃ c : InstCfg, validCfg c.hb s.ttl ∧ s' = { s with members := (c.id, c.hb) :: s.members }) ∨
    (s.members ≠ [] ∧ s.now ≤ e.t ∧ (∀ c ∈ s.claims, e.t ≤ c.deadline) ∧ Eff e { s with now := e.t } s') := by
  simp only [step, guards] at h
  obtain ⟨-, rfl⟩ | ⟨-, h⟩ := h
  · exact .inl ⟨_, rfl⟩
  split at h
  · exact .inl ⟨_, Guard.pure_ok.1 h⟩
  · simp only [reject, guards] at h
    obtain ⟨hm, hv, rfl⟩ | ⟨-, ⟨-, rfl⟩ | ⟨-, hv, rfl⟩⟩ := h
    · exact .inr (.inl ⟨_, hm, hv, rfl⟩)
    · exact .inl ⟨_, rfl⟩
    · exact .inr (.inr (.inl ⟨_, hv, rfl⟩))
  · exact .inl ⟨_, Guard.pure_ok.1 h⟩
  · simp only [reject, bind, Except.bind, guards] at h
    obtain ⟨hm, h⟩ := h
    cases hadv : advance s e.t <;> simp only [hadv, guards] at h
    obtain ⟨hnow, hdl, rfl⟩ := advance_ok hadv
    refine .inr (.inr (.inr ⟨hm, hnow, hdl, ?_⟩))
    split at h
    · simp only [guards] at h
      rcases h with ⟨-, rfl⟩ | ⟨-, rfl⟩ <;> exact .ops _
    · split at h
      · exact applyCreate_eff h
      · exact applyRefresh_eff h
      · exact applyDelete_eff h
      · cases h; exact .ops _
    · cases h; exact .ops _
    · simp only [guards] at h
      rcases h with ⟨-, h⟩ | ⟨-, rfl⟩
      · exact expire_eff h
      · exact .ops _
    · rename_i i _ il _ _ hev
      cases hh : (State.hbOf { s with now := e.t } i) <;> simp only [hh, guards] at h
      · exact h ▸ .ops _
      · rcases h with ⟨-, ⟨-, rfl⟩ | ⟨-, h⟩⟩ | ⟨hil, rfl⟩
        · exact .ops _
        · exact raise_eff hh h
        · exact .lower _ (by simpa [hil] using hev)
    · cases h
    · cases h
    · cases h; exact .ops _
end

/-! ### The invariant -/

theorem inv_init : LInv {} := ⟨by intro m hm; simp at hm, fun _ => rfl, by intro c hc; simp at hc⟩

/-- `backed`, read from the record: whoever claims is the owner of the live record, whatever it is. -/
theorem LInv.owner {s : State} (inv : LInv s) {o a : Nat} (hrec : s.record = some (o, a)) {c : Claim} (hc : c ∈ s.claims) :
    c.inst = o ∧ c.deadline = a + 2 * c.hb ∧ s.now ≤ a + 2 * c.hb ∧ validCfg c.hb s.ttl := by
  obtain ⟨a', h1, h2, h3, h4⟩ := inv.backed c hc
  rw [hrec] at h1; cases h1
  exact ⟨rfl, h2, h2 ▸ h3, h4⟩

theorem LInv.nil_of_vacant {s : State} (inv : LInv s) (hrec : s.record = none) : s.claims = [] :=
  List.eq_nil_iff_forall_not_mem.mpr fun c hc => by
    obtain ⟨a, h1, _⟩ := inv.backed c hc
    rw [hrec] at h1; cases h1

/-- A claimant's record has not reached its TTL: `now ≤ a + 2H < a + TTL`. -/
theorem LInv.nil_of_expired {s : State} (inv : LInv s) {o a : Nat} (hrec : s.record = some (o, a)) (hexp : a + s.ttl ≤ s.now) :
    s.claims = [] :=
  List.eq_nil_iff_forall_not_mem.mpr fun c hc => by
    obtain ⟨_, _, hnow, hpos, httl⟩ := inv.owner hrec hc
    omega

/-- An invariant state stays one when nobody claims any more and the configuration is untouched. -/
theorem LInv.of_nil {s s' : State} (inv : LInv s) (hm : s'.members = s.members) (ht : s'.ttl = s.ttl) (hc : s'.claims = []) :
    LInv s' :=
  ⟨by rw [hm, ht]; exact inv.members, fun _ => hc, by rw [hc]; intro c hc; cases hc⟩

theorem hbOf_valid {s : State} (inv : LInv s) {i h : Nat} (hh : s.hbOf i = some h) : validCfg h s.ttl := by
  obtain ⟨m, hf, rfl⟩ := Option.map_eq_some_iff.mp hh
  exact inv.members m (List.mem_of_find?_eq_some hf)

theorem eff_inv {e : TEv} {s s' : State} (inv : LInv s) (hm : s.members ≠ []) (h : Eff e s s') : LInv s' := by
  cases h with
  | ops o => exact ⟨inv.members, inv.noMembers, inv.backed⟩
  | create j hrec => exact inv.of_nil rfl rfl (inv.nil_of_vacant hrec)
  | expire o a hrec hexp => exact inv.of_nil rfl rfl (inv.nil_of_expired hrec hexp)
  | delete i a hnc hrec =>
    -- a claimant would be the owner, `i`, which does not claim
    refine inv.of_nil rfl rfl (List.eq_nil_iff_forall_not_mem.mpr fun c hc => ?_)
    simp [State.claims?] at hnc
    exact hnc c hc (inv.owner hrec hc).1
  | refresh i a hrec =>
    refine ⟨inv.members, fun h0 => by simp [inv.noMembers h0], fun c hc => ?_⟩
    obtain ⟨c0, hc0, rfl⟩ := List.mem_map.mp hc
    obtain ⟨hi, _, _, h4⟩ := inv.owner hrec hc0
    rw [if_pos hi]
    exact ⟨s.now, by rw [hi], rfl, Nat.le_add_right .., h4⟩
  | raise j h a hh hrec hlate =>
    refine ⟨inv.members, fun h0 => absurd h0 hm, fun c hc => ?_⟩
    rcases List.mem_cons.mp hc with rfl | hc
    · exact ⟨a, hrec, rfl, by show s.now ≤ a + 2 * h; omega, hbOf_valid inv hh⟩
    · -- another claimant would own the live record, which is the raiser's
      obtain ⟨hc, hne⟩ := List.mem_filter.mp hc
      exact absurd (inv.owner hrec hc).1 (by simpa using hne)
  | lower i _ =>
    exact ⟨inv.members, fun h0 => by simp [lower, inv.noMembers h0], fun c hc => inv.backed c (List.mem_filter.mp hc).1⟩

theorem step_inv {s s' : State} {e : TEv} (inv : LInv s) (h : step s e = .ok s') : LInv s' := by
  rcases step_cases h with ⟨b, rfl⟩ | ⟨c, hm, hok, rfl⟩ | ⟨c, hok, rfl⟩ | ⟨hm, _, hdl, eff⟩
  · exact ⟨inv.members, inv.noMembers, inv.backed⟩
  · have hnil := inv.noMembers hm
    exact ⟨fun m hm' => (by cases List.mem_singleton.mp hm'; exact hok), fun _ => hnil, by rw [hnil]; intro c hc; cases hc⟩
  · refine ⟨fun m hm' => ?_, nofun, inv.backed⟩
    rcases List.mem_cons.mp hm' with rfl | hm'
    · exact hok
    · exact inv.members m hm'
  · refine eff_inv (s := { s with now := e.t }) ⟨inv.members, inv.noMembers, fun c hc => ?_⟩ hm eff
    obtain ⟨a, h1, h2, _, h4⟩ := inv.backed c hc
    exact ⟨a, h1, h2, hdl c hc, h4⟩

theorem run_inv {s s' : State} (inv : LInv s) (evs : List TEv) (h : run s evs = .ok s') : LInv s' :=
  Fold.except_inv (fun _ => rfl) (fun _ _ _ => rfl) step_inv evs inv h

theorem reachable_inv {evs : List TEv} {s : State} (h : run {} evs = .ok s) : LInv s := run_inv inv_init evs h

end NLE.Lease
