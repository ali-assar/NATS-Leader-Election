import NLE.Model.Vac
import NLE.Proofs.Fold
import NLE.Proofs.Guard
/-
  Invariant of the vacancy model: while the key is vacant some obligation of the candidate is pending whose deadline
  chain ends within the bound.
-/
namespace NLE.Vac

def ChkTimes (p : Par) (now lastCheck : Nat) : Chk → Prop
  | .idle => now ≤ lastCheck + p.P + p.L
  | .flying c => c ≤ now ∧ now ≤ c + p.L
  | .seen c _ => c ≤ now ∧ now ≤ c + p.L

def ChkW (p : Par) (lastCheck v : Nat) : Chk → Prop
  | .idle => lastCheck ≤ v
  | .flying c => c ≤ v + p.P + p.L
  | .seen c true => c ≤ v + p.P + p.L
  | .seen c false => c ≤ v

/-- Some pending obligation will end the vacancy that began at `v` in time. -/
def W (p : Par) (s : St) (v : Nat) : Prop :=
  (∃ c ∈ s.crts, c ≤ v + p.P + p.J + 2 * p.L + p.B) ∨ (∃ r ∈ s.owed, r ≤ v + p.P + 2 * p.L) ∨ ChkW p s.lastCheck v s.chk

structure Inv (p : Par) (s : St) : Prop where
  owedLe : ∀ r ∈ s.owed, r ≤ s.now ∧ s.now ≤ r + p.J + p.B
  crtsLe : ∀ c ∈ s.crts, c ≤ s.now ∧ s.now ≤ c + p.L
  lastLe : s.lastCheck ≤ s.now
  chkOK : ChkTimes p s.now s.lastCheck s.chk
  vacLe : ∀ v, s.vacant = some v → v ≤ s.now
  progress : ∀ v, s.vacant = some v → W p s v

theorem ChkTimes.le_due {p : Par} {s : St} {t : Nat} (h : ChkTimes p t s.lastCheck s.chk) : t ≤ chkDue p s := by
  unfold chkDue
  revert h
  cases s.chk with
  | idle => exact id
  | _ => exact And.right

theorem ChkTimes.advance {p : Par} {s : St} {t : Nat} (h : ChkTimes p s.now s.lastCheck s.chk) (h1 : s.now ≤ t)
    (h2 : t ≤ chkDue p s) : ChkTimes p t s.lastCheck s.chk := by
  unfold chkDue at h2
  revert h h2
  cases s.chk with
  | idle => exact fun _ h2 => h2
  | _ => exact fun h h2 => ⟨Nat.le_trans h.1 h1, h2⟩

/-- Whatever the check mechanism is doing, it vouches for a vacancy that begins now. -/
theorem ChkW.of_times {p : Par} {now lc : Nat} {k : Chk} (hl : lc ≤ now) (h : ChkTimes p now lc k) : ChkW p lc now k := by
  cases k with
  | idle => exact hl
  | flying c => exact Nat.le_trans h.1 (by omega)
  | seen c b => cases b <;> exact Nat.le_trans h.1 (by omega)

/-- A vacancy the check mechanism vouches for is younger than a check interval and two latencies. -/
theorem ChkW.young {p : Par} {now lc v : Nat} {k : Chk} (h : ChkTimes p now lc k) (hw : ChkW p lc v k) :
    now ≤ v + p.P + 2 * p.L := by
  cases k with
  | seen c b => cases b <;> simp only [ChkTimes, ChkW] at h hw <;> omega
  | _ => simp only [ChkTimes, ChkW] at h hw; omega

/-- The obligations hand a vacancy down a chain: the check, the Create owed after a miss, the Create called.  `W`
    survives a step that drops no link: a called Create stays pending, an owed one stays owed or is called by its
    deadline, and what the check vouched for it still vouches for or has handed on to an owed Create. -/
theorem W.mono {p : Par} {s s' : St} {v : Nat} (h : W p s v) (hc : ∀ c ∈ s.crts, c ∈ s'.crts)
    (ho : ∀ r ∈ s.owed, r ∈ s'.owed ∨ ∃ c ∈ s'.crts, c ≤ r + p.J + p.B)
    (hk : ChkW p s.lastCheck v s.chk → ChkW p s'.lastCheck v s'.chk ∨ ∃ r ∈ s'.owed, r ≤ v + p.P + 2 * p.L) :
    W p s' v := by
  rcases h with ⟨c, hc', h⟩ | ⟨r, hr, h⟩ | h
  · exact .inl ⟨c, hc c hc', h⟩
  · rcases ho r hr with h' | ⟨c, hc', h'⟩
    · exact .inr (.inl ⟨r, h', h⟩)
    · exact .inl ⟨c, hc', by omega⟩
  · exact (hk h).elim (.inr ∘ .inr) (.inr ∘ .inl)

theorem inv_init (p : Par) (t0 : Nat) (vacant : Bool) : Inv p (init t0 vacant) :=
  have hv : ∀ v, (init t0 vacant).vacant = some v → v = t0 := fun v h => by
    cases vacant
    · cases h
    · cases h; rfl
  { owedLe := fun _ h => nomatch h
    crtsLe := fun _ h => nomatch h
    lastLe := Nat.le_refl _
    chkOK := Nat.le_trans (Nat.le_add_right _ _) (Nat.le_add_right _ _)
    vacLe := fun v h => Nat.le_of_eq (hv v h)
    progress := fun v h => .inr (.inr (Nat.le_of_eq (hv v h).symm)) }

theorem step_inv {p : Par} {s s' : St} {a : Act} (inv : Inv p s) (h : step p s a = some s') : Inv p s' := by
  obtain ⟨now, vacant, lastCheck, chk, owed, crts⟩ := s
  cases a with
  | advance t =>
    simp only [step, guards, canAdvance, Bool.and_eq_true, decide_eq_true_eq, List.all_eq_true] at h
    obtain ⟨⟨⟨⟨h1, h2⟩, h3⟩, h4⟩, rfl⟩ := h
    exact { owedLe := fun r hr => ⟨Nat.le_trans (inv.owedLe r hr).1 h1, h3 r hr⟩
            crtsLe := fun c hc => ⟨Nat.le_trans (inv.crtsLe c hc).1 h1, h4 c hc⟩
            lastLe := Nat.le_trans inv.lastLe h1
            chkOK := inv.chkOK.advance h1 h2
            vacLe := fun v hv => Nat.le_trans (inv.vacLe v hv) h1
            progress := inv.progress }
  | vacate =>
    simp only [step, guards] at h; subst h
    exact { inv with
      vacLe := fun v hv => by cases hv; exact Nat.le_refl _
      progress := fun v hv => by cases hv; exact .inr (.inr (ChkW.of_times inv.lastLe inv.chkOK)) }
  | fill =>
    simp only [step, guards] at h; subst h
    exact { inv with
      vacLe := fun _ hv => nomatch hv
      progress := fun _ hv => nomatch hv }
  | checkCall =>
    cases chk <;> simp only [step, guards] at h
    subst h
    have hK : now ≤ lastCheck + p.P + p.L := inv.chkOK
    exact { inv with
      chkOK := ⟨Nat.le_refl _, Nat.le_add_right _ _⟩
      progress := fun v hv => (inv.progress v hv).imp_right (Or.imp_right fun (h : lastCheck ≤ v) => by
        show now ≤ v + p.P + p.L; omega) }
  | checkApply =>
    cases chk <;> simp only [step, guards] at h
    subst h
    -- `ChkTimes` reads `.seen c _` as it reads `.flying c`; so does `ChkW` when the key is vacant: `.seen c true`
    exact { inv with progress := fun v hv => by cases hv; exact inv.progress v rfl }
  | checkRet miss =>
    cases chk <;> simp only [step, guards] at h
    rename_i c vac
    obtain ⟨hg, rfl⟩ := h
    have hK : c ≤ now ∧ now ≤ c + p.L := inv.chkOK
    cases miss
    · -- a record was read: the key was live at `c`, and `.seen c false`, `.idle` after `c` both say `c ≤ v`
      cases vac
      · exact { inv with lastLe := hK.1, chkOK := by show now ≤ c + p.P + p.L; omega }
      · exact absurd ⟨rfl, rfl⟩ hg
    · -- the Create owed from now on vouches for every vacancy the check vouched for
      exact { inv with
        owedLe := List.forall_mem_cons.2 ⟨⟨Nat.le_refl _, Nat.le_add_right_of_le (Nat.le_add_right _ _)⟩, inv.owedLe⟩
        lastLe := hK.1
        chkOK := by show now ≤ c + p.P + p.L; omega
        progress := fun v hv => (inv.progress v hv).mono (fun _ h => h) (fun _ hr => .inl (List.mem_cons_of_mem _ hr))
          fun h => .inr ⟨now, List.mem_cons_self, ChkW.young inv.chkOK h⟩ }
  | createCall =>
    simp only [step, guards] at h; subst h
    exact { inv with
      owedLe := fun r hr => inv.owedLe r (List.mem_filter.mp hr).1
      crtsLe := List.forall_mem_cons.2 ⟨⟨Nat.le_refl _, Nat.le_add_right _ _⟩, inv.crtsLe⟩
      -- an obligation the Create discharges was due by `r + J + B`, and the clock has not passed that
      progress := fun v hv => (inv.progress v hv).mono (fun _ => List.mem_cons_of_mem _)
        (fun r hr => if hd : r + p.Jmin ≤ now then .inr ⟨now, List.mem_cons_self, (inv.owedLe r hr).2⟩
          else .inl (List.mem_filter.mpr ⟨hr, by simpa using hd⟩)) .inl }
  | createApply c =>
    simp only [step, guards] at h
    obtain ⟨-, rfl⟩ := h
    exact { inv with
      crtsLe := fun c' hc' => inv.crtsLe c' (List.mem_of_mem_erase hc')
      vacLe := fun _ hv => nomatch hv
      progress := fun _ hv => nomatch hv }

theorem run_inv {p : Par} {s s' : St} (inv : Inv p s) (as : List Act) (h : run p s as = some s') : Inv p s' :=
  Fold.option_inv (fun _ => rfl) (fun s a as => by rw [run]; cases step p s a <;> rfl) step_inv as inv h

/-- In every state satisfying the invariant a vacancy is younger than the bound. -/
theorem vacancy_young {p : Par} {s : St} (inv : Inv p s) (v : Nat) (hv : s.vacant = some v) : s.now ≤ v + bound p := by
  unfold bound
  rcases inv.progress v hv with ⟨c, hc, hcv⟩ | ⟨r, hr, hrv⟩ | h
  · have := (inv.crtsLe c hc).2; omega
  · have := (inv.owedLe r hr).2; omega
  · have := ChkW.young inv.chkOK h; omega

end NLE.Vac
