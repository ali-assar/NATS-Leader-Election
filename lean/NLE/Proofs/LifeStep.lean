import NLE.Model.Life
import NLE.Proofs.Guard
/-
  What the handlers of `Life` do, read off their definitions once: when a handler accepts, which guards held and
  which record it returned.  Everything proved about `Life` starts from these instead of unfolding a handler.
-/
namespace NLE.Life

theorem stepTrans_ok {x x' : Inst} {f t : Nat} (h : stepTrans x f t = .ok x') :
    x.pendingFlag = none ∧ f = x.state ∧
    (t = 2 ∧ x.running = true ∧ x.flag = false ∧ x' = { x with state := 2, pendingFlag := some true } ∨
     t = 3 ∧ x.running = false ∧ x.stopPendingTrans = true ∧ x.flag = false ∧ x' = { x with state := 3 } ∨
     t = 3 ∧ (x.running = false → x.ctxCancelled = true ∧ x.flag = true) ∧ x' = { x with state := 3, pendingFlag := some false } ∨
     t = 5 ∧ x.stops ≠ [] ∧ x' = { x with state := 5, pendingFlag := some false, stopPendingTrans := false }) := by
  simp only [stepTrans, reject, guards, and_assoc, Decidable.not_and_not_right] at h
  obtain ⟨hp, hf, h⟩ := h
  refine ⟨hp, hf, ?_⟩
  rcases h with h2 | ⟨-, ⟨h3, h | ⟨-, h⟩⟩ | ⟨-, h5⟩⟩
  · exact .inl h2
  · exact .inr (.inl ⟨h3, h⟩)
  · exact .inr (.inr (.inl ⟨h3, h⟩))
  · exact .inr (.inr (.inr h5))

/-- The second disjunct carries exactly the hypothesis under which `clearFlag` keeps the invariant. -/
theorem stepFlag_ok {x x' : Inst} {b il : Bool} {tok lid : Nat} (h : stepFlag x b il tok lid = .ok x') :
    b = il ∧
    (il = true ∧ x.pendingFlag = some true ∧ lid = x.id ∧ x.promoOwed = none ∧ x.demoteOwed = 0 ∧ x.stopDemoteOwed = 0 ∧
      x' = { x with pendingFlag := none, flag := true, termTok := tok, promoOwed := if x.callbacks then some tok else none } ∨
     il = false ∧
      (x.pendingFlag = some false ∨ x.pendingFlag = none ∧ ¬ (x.flag = true ∧ (x.running = true ∨ x.ctxCancelled = true))) ∧
      x' = clearFlag x) := by
  cases hp : x.pendingFlag <;> simp only [stepFlag, hp, reject, guards, and_assoc] at h
  · exact ⟨h.1, .inr ⟨h.2.1, .inr ⟨rfl, h.2.2.1⟩, h.2.2.2⟩⟩
  · obtain ⟨hb, rfl, ⟨hil, h⟩ | ⟨hil, h⟩⟩ := h
    · exact ⟨hb, .inl ⟨hil, hil ▸ rfl, h⟩⟩
    · exact ⟨hb, .inr ⟨hil, .inl (hil ▸ rfl), h⟩⟩

theorem stepPromote_ok {x x' : Inst} {tok cid : Nat} {dn : Bool} (h : stepPromote x tok cid dn = .ok x') :
    x.promoOwed = some tok ∧
    ¬ (dn = true ∧ x.flag = true ∧ x.termTok = tok ∧ x.stopPendingTrans = false ∧ x.ctxCancelled = false) ∧
    x' = { x with promoOwed := none, promotes := x.promotes + 1,
                  ctxs := { cid := cid, tok := tok, cancelled := dn,
                            termOver := !(x.flag && x.termTok == tok) || x.stopPendingTrans || x.ctxCancelled } :: x.ctxs } := by
  cases hp : x.promoOwed <;> simp only [stepPromote, hp, reject, guards] at h
  exact ⟨h.1 ▸ rfl, h.2⟩

theorem stepCtxDone_ok {x x' : Inst} {cid : Nat} (h : stepCtxDone x cid = .ok x') :
    (∃ c, x.ctxs.find? (·.cid = cid) = some c ∧
      (c.termOver = true ∨ c.cbRunning = false ∨ x.stopPendingTrans = true ∨ x.ctxCancelled = true ∨ x.ending = true)) ∧
    x' = { x with ctxs := x.ctxs.map fun c => if c.cid = cid then { c with cancelled := true } else c } := by
  cases hc : x.ctxs.find? (·.cid = cid) <;> simp only [stepCtxDone, hc, reject, guards] at h
  exact ⟨⟨_, rfl, h.1⟩, h.2⟩

theorem stepDemote_ok {x x' : Inst} (h : stepDemote x = .ok x') :
    x.flag = false ∧ x.promoOwed = none ∧
    (0 < x.demoteOwed ∧ x' = { x with demoteOwed := x.demoteOwed - 1, demotes := x.demotes + 1 } ∨
     x.demoteOwed = 0 ∧ 0 < x.stopDemoteOwed ∧ x' = { x with stopDemoteOwed := x.stopDemoteOwed - 1, demotes := x.demotes + 1 }) := by
  simpa only [stepDemote, reject, guards, and_assoc] using h

/-- An accepted `status` line: the point is quiescent and the line shows the model's state. -/
theorem statusOk_none {x : Inst} {st tok : Nat} {il il2 : Bool} (h : statusOk x st il tok il2 = none) :
    x.pendingFlag = none ∧ x.stopPendingTrans = false ∧ (st = x.state ∧ il = x.flag ∧ il2 = x.flag) ∧
    (x.flag = true → tok = x.termTok) ∧
    (x.promoOwed = none ∧ x.demoteOwed = 0 ∧ (x.stops = [] → x.stopDemoteOwed = 0)) ∧
    ∀ c ∈ x.ctxs, c.termOver = true → c.cancelled = true := by
  simpa only [statusOk, guards, and_assoc, not_and, List.any_eq_false, Bool.and_eq_true, Bool.not_eq_eq_eq_not, Bool.not_true] using h

end NLE.Life
