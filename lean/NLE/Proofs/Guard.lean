import NLE.Proofs.GuardAttr
/-
  Every handler of every acceptor is a chain `if g₁ then reject … else if g₂ then reject … else pure s'` (in `Except`;
  `if g then some s' else none` in `Option`), and to say that it accepted is to say that every guard was passed.  The
  lemmas below say so for one link; under the attribute `guards`, with a few normal forms for negated guards,
  `simp only [handler, reject, guards] at h` turns `h : handler … = .ok s'` into the conjunction of the guards passed
  and the equation `s' = …`, a disjunction where the handler branches.  (`split at h` does the same one link at a
  time, and re-traverses the interpolated messages of all the rejecting branches each time.)
-/
namespace NLE.Guard
variable {α ε : Type} {c : Prop} [Decidable c]

@[guards] theorem error_else_ok {m : ε} {k : Except ε α} {v : α} : (if c then .error m else k) = .ok v ↔ ¬ c ∧ k = .ok v := by
  by_cases hc : c <;> simp [hc]

@[guards] theorem else_error_ok {m : ε} {k : Except ε α} {v : α} : (if c then k else .error m) = .ok v ↔ c ∧ k = .ok v := by
  by_cases hc : c <;> simp [hc]

@[guards low] theorem ite_ok {a b : Except ε α} {v : α} : (if c then a else b) = .ok v ↔ c ∧ a = .ok v ∨ ¬ c ∧ b = .ok v := by
  by_cases hc : c <;> simp [hc]

@[guards] theorem pure_ok {a v : α} : (pure a : Except ε α) = .ok v ↔ v = a := by
  simp [pure, Except.pure, eq_comm]

@[guards] theorem error_ne_ok {m : ε} {v : α} : (Except.error m : Except ε α) = .ok v ↔ False := by simp

@[guards] theorem none_else_some {k : Option α} {v : α} : (if c then none else k) = some v ↔ ¬ c ∧ k = some v := by
  by_cases hc : c <;> simp [hc]

@[guards] theorem else_none_some {k : Option α} {v : α} : (if c then k else none) = some v ↔ c ∧ k = some v := by
  by_cases hc : c <;> simp [hc]

@[guards low] theorem ite_some {a b : Option α} {v : α} : (if c then a else b) = some v ↔ c ∧ a = some v ∨ ¬ c ∧ b = some v := by
  by_cases hc : c <;> simp [hc]

@[guards] theorem some_some {a v : α} : some a = some v ↔ v = a := by
  simp [eq_comm]

@[guards] theorem none_ne_some {v : α} : (none : Option α) = some v ↔ False := by simp

@[guards] theorem ite_some_eq_none {m : α} {r : Option α} : (if c then some m else r) = none ↔ ¬ c ∧ r = none := by
  by_cases hc : c <;> simp [hc]

attribute [guards] and_false false_and false_or or_false and_true true_and not_or ne_eq Decidable.not_not
  Bool.not_eq_true Bool.not_eq_false Option.isSome_eq_false_iff Option.isNone_iff_eq_none Option.not_isSome_iff_eq_none
  List.isEmpty_iff gt_iff_lt Nat.not_lt Nat.le_zero_eq Bool.false_eq_true

end NLE.Guard
