import NLE.Model.Own
import NLE.Proofs.Guard
/-
  What an accepted event of the ownership model `Own` has checked and what it does to the state: one inversion
  lemma per handler, in terms of a few primitive updates.  The invariant proofs (`OwnInv`, `OwnTok`) and the
  theorem files rest on these and never unfold a handler.
-/
namespace NLE.Own
open State

/-! ### The primitive updates, field by field -/

@[simp] theorem setInst_hist (s : State) (x : Inst) : (s.setInst x).hist = s.hist := rfl
@[simp] theorem setInst_store (s : State) (x : Inst) : (s.setInst x).store = s.store := rfl
@[simp] theorem setInst_seq (s : State) (x : Inst) : (s.setInst x).seq = s.seq := rfl
@[simp] theorem setInst_ops (s : State) (x : Inst) : (s.setInst x).ops = s.ops := rfl
@[simp] theorem setInst_insts (s : State) (x : Inst) (i : Nat) :
    (s.setInst x).insts i = if i = x.cfg.id then some x else s.insts i := rfl
@[simp] theorem addOp_hist (s : State) (p : POp) : (s.addOp p).hist = s.hist := rfl
@[simp] theorem addOp_store (s : State) (p : POp) : (s.addOp p).store = s.store := rfl
@[simp] theorem addOp_seq (s : State) (p : POp) : (s.addOp p).seq = s.seq := rfl
@[simp] theorem addOp_insts (s : State) (p : POp) : (s.addOp p).insts = s.insts := rfl
@[simp] theorem addOp_ops (s : State) (p : POp) : (s.addOp p).ops = p :: s.ops := rfl
@[simp] theorem markOp_hist (s : State) (o : Nat) (r) : (s.markOp o r).hist = s.hist := rfl
@[simp] theorem markOp_store (s : State) (o : Nat) (r) : (s.markOp o r).store = s.store := rfl
@[simp] theorem markOp_seq (s : State) (o : Nat) (r) : (s.markOp o r).seq = s.seq := rfl
@[simp] theorem markOp_insts (s : State) (o : Nat) (r) : (s.markOp o r).insts = s.insts := rfl
@[simp] theorem dropOp_hist (s : State) (o : Nat) : (s.dropOp o).hist = s.hist := rfl
@[simp] theorem dropOp_store (s : State) (o : Nat) : (s.dropOp o).store = s.store := rfl
@[simp] theorem dropOp_seq (s : State) (o : Nat) : (s.dropOp o).seq = s.seq := rfl
@[simp] theorem dropOp_insts (s : State) (o : Nat) : (s.dropOp o).insts = s.insts := rfl

theorem mem_dropOp {s : State} {o : Nat} {p : POp} (h : p ∈ (s.dropOp o).ops) : p ∈ s.ops :=
  (List.mem_filter.mp h).1

theorem op?_mem {s : State} {o : Nat} {p : POp} (h : s.op? o = some p) : p ∈ s.ops ∧ p.id = o :=
  ⟨List.mem_of_find?_eq_some h, by simpa using List.find?_some h⟩

theorem op?_none {s : State} {o : Nat} (h : s.op? o = none) : ∀ p ∈ s.ops, p.id ≠ o := by
  simpa [op?] using h

/-! ### Changes of the world -/

def afterToks (m : Mut) : List Nat :=
  match m.after with
  | some r => valToks r.val
  | none => []

/-- The store makes the change recorded as `m`: key `m.key` now holds `m.after`, the revision counter stands at `seq'`,
    and the tokens of the new version are in use.  Every world-changing branch of the model is this:
    a write of an instance (`applyWrite_eq`), its Delete, expiry, the outside writer. -/
def State.change (s : State) (m : Mut) (seq' : Nat) : State :=
  { (s.setKey m.key m.after).addMut m with seq := seq', usedToks := afterToks m ++ s.usedToks }

/-- The mutation recorded when the store applies the write `p` at revision `rev`. -/
def POp.write (p : POp) (rev : Nat) (kind : MKind) (before : Option Rec) : Mut :=
  { who := p.inst, kind := kind, key := p.key, exp := p.exp, before := before,
    after := some { val := p.val, rev := rev, writer := p.inst } }

theorem applyWrite_eq (s : State) (op : Nat) (p : POp) (rev : Nat) (kind : MKind) (before : Option Rec) :
    applyWrite s op p rev kind before = (s.change (p.write rev kind before) rev).markOp op (some rev) := rfl

/-! ### Inversion of the handlers -/

/-- What `stepCall` has checked when instance `x` issues the pending operation `p`; `u` are the tokens it puts in use. -/
inductive Issues (s : State) (x : Inst) (p : POp) : List Nat → Prop
  | create {tok} : p.purpose = .create → p.val = .own p.inst tok x.cfg.prio → tok ∉ s.usedToks → Issues s x p [tok]
  | heartbeat {tok} : p.purpose = .heartbeat → p.val = .own p.inst tok x.cfg.prio → x.lead = some tok → p.exp = x.hbRev →
      Issues s x p []
  | takeover {tok} : p.purpose = .takeover → p.val = .own p.inst tok x.cfg.prio → tok ∉ s.usedToks →
      takeoverAllowed x p.exp = true → Issues s x p [tok]
  | delete : p.purpose = .delete → x.stopDel.isSome = true → (x.stopOwner = true ∨ x.awd = true) → Issues s x p []
  | other : p.purpose = .other → Issues s x p []

theorem stepCall_ok {s s' : State} {t op i kind key exp val} (h : stepCall s t op i kind key exp val = .ok s') :
    ∃ x p u, s.insts i = some x ∧ s.op? op = none ∧ key = x.cfg.key ∧ p.id = op ∧ p.inst = i ∧ p.key = key ∧
      p.applied = none ∧ (kind = .delete → p.purpose = .delete) ∧ Issues s x p u ∧
      s' = { s.addOp p with usedToks := u ++ s.usedToks } := by
  cases hx : s.insts i <;> simp only [stepCall, hx, reject, guards] at h
  rename_i x
  obtain ⟨hfree, hkey, h⟩ := h
  refine ⟨x, ?_⟩
  cases kind with
  | create =>
    cases val <;> simp only [guards] at h
    obtain ⟨⟨rfl, rfl, -⟩, ⟨-, hu⟩, rfl⟩ := h
    exact ⟨_, [_], rfl, hfree, hkey, rfl, rfl, rfl, rfl, (nomatch ·), .create rfl rfl (by simpa using hu), rfl⟩
  | update =>
    cases val <;> simp only [guards] at h
    obtain ⟨⟨rfl, rfl, -⟩, ⟨hl, he, rfl⟩ | ⟨-, -, ⟨-, hu, htk⟩, rfl⟩⟩ := h
    · exact ⟨_, [], rfl, hfree, hkey, rfl, rfl, rfl, rfl, (nomatch ·), .heartbeat rfl rfl hl he, rfl⟩
    · exact ⟨_, [_], rfl, hfree, hkey, rfl, rfl, rfl, rfl, (nomatch ·), .takeover rfl rfl (by simpa using hu) htk, rfl⟩
  | delete =>
    simp only [guards] at h
    exact ⟨_, [], rfl, hfree, hkey, rfl, rfl, rfl, rfl, fun _ => rfl, .delete rfl h.1.1 h.1.2, h.2⟩
  | get | watch => exact ⟨_, [], rfl, hfree, hkey, rfl, rfl, rfl, rfl, (nomatch ·), .other rfl, Guard.pure_ok.1 h⟩

/-- What `stepApplyOk` has checked when the store applies the pending operation `p` at revision `rev`, and the mutation it
    records. -/
inductive Applies (s : State) (p : POp) (rev : Nat) : Mut → Prop
  | create : p.purpose = .create → s.store p.key = none → Applies s p rev (p.write rev .create none)
  | refresh {old} : p.purpose = .heartbeat → s.store p.key = some old → old.rev = p.exp →
      Applies s p rev (p.write rev .refresh (some old))
  | takeover {old} : p.purpose = .takeover → s.store p.key = some old → old.rev = p.exp →
      Applies s p rev (p.write rev .takeover (some old))
  | delete : p.purpose = .delete →
      Applies s p rev { who := p.inst, kind := .delete, key := p.key, exp := 0, before := s.store p.key, after := none }

theorem stepApply_ok {s s' : State} {op a} (h : stepApply s op a = .ok s') :
    ∃ p, s.op? op = some p ∧ p.applied = none ∧
      ((∃ r, (r = none ∨ p.purpose = .other) ∧ s' = s.markOp op r) ∨
       ∃ rev m, rev = s.seq + 1 ∧ Applies s p rev m ∧ s' = (s.change m rev).markOp op (some rev)) := by
  cases hp : s.op? op <;> simp only [stepApply, hp, reject, guards] at h
  rename_i p
  obtain ⟨hna, h⟩ := h
  refine ⟨p, rfl, hna, ?_⟩
  cases a <;> simp only [guards] at h
  case ok rev =>
    unfold stepApplyOk at h
    cases hpu : p.purpose <;> simp only [hpu, reject, guards] at h
    case create =>
      cases hs : s.store p.key <;> simp only [hs, guards, reduceCtorEq] at h
      exact .inr ⟨rev, _, h.1, .create hpu hs, h.2⟩
    case heartbeat =>
      cases hs : s.store p.key <;> simp only [hs, guards] at h
      exact .inr ⟨rev, _, h.2.1, .refresh hpu hs h.1, h.2.2⟩
    case takeover =>
      cases hs : s.store p.key <;> simp only [hs, guards] at h
      exact .inr ⟨rev, _, h.2.1, .takeover hpu hs h.1, h.2.2⟩
    case delete => exact .inr ⟨rev, _, h.1, .delete hpu, h.2⟩
    case other => exact .inl ⟨_, .inr rfl, h⟩
  all_goals exact .inl ⟨none, .inl rfl, h⟩


/-- How `stepRet` updates the local variables `x` of the instance that issued `p` when the answer tells it something:
    an acquiring write acknowledged, a refresh acknowledged within its term and time-out, a read that returned a version. -/
inductive Returns (s : State) (p : POp) (x : Inst) : Inst → Prop
  | acked {tok rev} : p.purpose = .create ∨ p.purpose = .takeover → p.applied = some (some rev) → valTok p.val = some tok →
      Returns s p x { x with acked := (tok, rev) :: x.acked, stopOwner := x.stopOwner || x.stopDel.isSome, awd := x.awd || x.halted }
  | refreshed {rev} : p.purpose = .heartbeat → p.applied = some (some rev) → x.lead = valTok p.val →
      Returns s p x { x with hbRev := rev }
  | read {rev v} : p.key = x.cfg.key → (∃ r, (∃ m ∈ s.hist, m.key = p.key ∧ m.after = some r) ∧ r.rev = rev ∧ r.val = v) →
      Returns s p x { x with seen := (rev, v) :: x.seen }

theorem stepRet_ok {s s' : State} {t op r} (h : stepRet s t op r = .ok s') :
    ∃ p, s.op? op = some p ∧
      (s' = s.dropOp op ∨ ∃ x x', s.insts p.inst = some x ∧ Returns s p x x' ∧ s' = (s.dropOp op).setInst x') := by
  cases hp : s.op? op <;> simp only [stepRet, hp, reject, guards] at h
  rename_i p
  refine ⟨p, rfl, ?_⟩
  cases hx : (s.dropOp op).insts p.inst <;> simp only [hx, guards] at h
  · exact .inl h
  rename_i x
  cases hpu : p.purpose <;> cases r <;> simp only [hpu, guards] at h
  case create.ok | takeover.ok =>
    cases hv : valTok p.val <;> simp only [hv, guards] at h
    · exact .inl h.2
    · exact .inr ⟨x, _, hx, .acked (by simp [hpu]) h.1 hv, h.2⟩
  case heartbeat.ok =>
    obtain ⟨happ, ⟨hl, rfl⟩ | ⟨-, rfl⟩⟩ := h
    · exact .inr ⟨x, _, hx, .refreshed hpu happ hl.1, rfl⟩
    · exact .inl rfl
  case other.ok rev v =>
    cases v <;> simp only [guards] at h
    · exact .inl h
    · refine .inr ⟨x, _, hx, .read h.1.1 ?_, h.2⟩
      obtain ⟨m, hm, hma⟩ := List.any_eq_true.mp h.1.2
      cases hafter : m.after <;> simp only [hafter, Bool.and_eq_true, beq_iff_eq, Bool.and_false, reduceCtorEq] at hma
      exact ⟨_, ⟨m, hm, hma.1, hafter⟩, hma.2⟩
  all_goals exact .inl h

theorem stepFlag_ok {s s' : State} {i il tok} (h : stepFlag s i il tok = .ok s') :
    (s.insts i = none ∧ s' = s) ∨ ∃ x, s.insts i = some x ∧
      ((il = true ∧ x.lead = some tok ∧ s' = s) ∨ (il = false ∧ s' = s.setInst { x with lead := none }) ∨
       ∃ rev, il = true ∧ x.lead = none ∧ (tok, rev) ∈ x.acked ∧
         s' = s.setInst { x with lead := some tok, hbRev := rev, acked := x.acked.filter (·.1 ≠ tok) }) := by
  cases hx : s.insts i <;> simp only [stepFlag, hx, guards] at h
  · exact .inl ⟨rfl, h⟩
  rename_i x
  refine .inr ⟨x, rfl, ?_⟩
  cases hf : x.acked.find? (·.1 = tok) <;> simp only [hf, reject, guards] at h
  · exact h.imp_right .inl
  · rename_i tr
    obtain ⟨hil, hl | ⟨-, hl, rfl⟩⟩ | h := h
    · exact .inl ⟨hil, hl⟩
    · obtain rfl : tr.1 = tok := by simpa using List.find?_some hf
      exact .inr (.inr ⟨tr.2, hil, hl, List.mem_of_find?_eq_some hf, rfl⟩)
    · exact .inr (.inl h)

/-- `x'` differs from `x` only in the bookkeeping of stop and start calls. -/
structure Book (x x' : Inst) : Prop where
  cfg : x'.cfg = x.cfg
  lead : x'.lead = x.lead
  hbRev : x'.hbRev = x.hbRev
  acked : x'.acked = x.acked
  seen : x'.seen = x.seen

/-- A change of the world that is nobody's write (expiry, outside writer), recorded as `m`. -/
structure Outside (s : State) (m : Mut) (seq' : Nat) : Prop where
  who : m.who = 0
  kind : m.kind = .expire ∨ m.kind = .ext
  seq : s.seq ≤ seq'
  rev : ∀ r, m.after = some r → r.rev = seq' ∧ s.seq < seq'
  toks : ∀ t ∈ afterToks m, t ∉ unpublishedToks s

/-- The transitions of the model: what `step` has accepted, handler by handler. -/
inductive Step (s s' : State) : Prop
  | inst (c : InstCfg) (hfree : s.insts c.id = none) (h : s' = s.setInst { cfg := c })
  | call {t op i kind key exp val} (h : stepCall s t op i kind key exp val = .ok s')
  | apply {op a} (h : stepApply s op a = .ok s')
  | ret {t op r} (h : stepRet s t op r = .ok s')
  | flag {i il tok} (h : stepFlag s i il tok = .ok s')
  | outside {m seq'} (ho : Outside s m seq') (h : s' = s.change m seq')
  | book {i x x'} (hx : s.insts i = some x) (hb : Book x x') (h : s' = s.setInst x')
  | skip (h : s' = s)

theorem step_ok {s s' : State} {e : TEv} (h : step s e = .ok s') : Step s s' := by
  have book : ∀ {i x x'}, s.insts i = some x → (pure (s.setInst x') : R State) = .ok s' → Book x x' → Step s s' :=
    fun hx h hb => .book hx hb (Guard.pure_ok.1 h)
  unfold step at h
  split at h
  · rename_i c _
    simp only [reject, guards] at h
    exact .inst c h.1 h.2
  · exact .call h
  · exact .apply h
  · exact .ret h
  · rename_i key rev _
    cases hs : s.store key <;> simp only [stepExpire, hs, reject, guards] at h
    exact .outside (m := { who := 0, kind := .expire, key := key, exp := 0, before := _, after := none })
      ⟨rfl, .inl rfl, Nat.le_refl _, fun _ h => (nomatch h), fun _ h => (nomatch h)⟩ h.2
  · rename_i key rev val _
    simp only [stepExtPut, reject, guards, List.any_eq_false, List.contains_iff_mem] at h
    exact .outside
      (m := { who := 0, kind := .ext, key := key, exp := 0, before := s.store key, after := some ⟨val, rev, 0⟩ })
      ⟨rfl, .inr rfl, by omega, fun r hr => by cases hr; exact ⟨rfl, by omega⟩, h.2.1⟩ h.2.2
  · rename_i key rev _
    simp only [stepExtDelete, reject, guards] at h
    exact .outside (m := { who := 0, kind := .ext, key := key, exp := 0, before := s.store key, after := none })
      ⟨rfl, .inr rfl, by omega, fun _ h => (nomatch h), fun _ h => (nomatch h)⟩ h.2
  · exact .flag h
  · split at h
    · rename_i x hx
      split at h <;> exact book hx h ⟨rfl, rfl, rfl, rfl, rfl⟩
    · exact .skip (Guard.pure_ok.1 h)
  · split at h
    · rename_i x hx; exact book hx h ⟨rfl, rfl, rfl, rfl, rfl⟩
    · exact .skip (Guard.pure_ok.1 h)
  · split at h
    · rename_i x hx; exact book hx h ⟨rfl, rfl, rfl, rfl, rfl⟩
    · exact .skip (Guard.pure_ok.1 h)
  · split at h
    · rename_i x hx; exact book hx h ⟨rfl, rfl, rfl, rfl, rfl⟩
    · exact .skip (Guard.pure_ok.1 h)
  · split at h
    · rename_i x hx
      split at h
      · exact book hx h ⟨rfl, rfl, rfl, rfl, rfl⟩
      · split at h
        · split at h <;> exact book hx h ⟨rfl, rfl, rfl, rfl, rfl⟩
        · exact .skip (Guard.pure_ok.1 h)
    · exact .skip (Guard.pure_ok.1 h)
  · exact .skip (Guard.pure_ok.1 h)
end NLE.Own
