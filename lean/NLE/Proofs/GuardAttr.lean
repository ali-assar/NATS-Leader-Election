import Lean.Meta.Tactic.Simp.RegisterCommand
/-- The simp set that walks a guard chain of an acceptor: see `NLE/Proofs/Guard.lean`. -/
register_simp_attr guards
