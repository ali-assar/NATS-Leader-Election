import NLE.Proofs.OwnStep
import NLE.Proofs.Fold
/-
  Invariants of the ownership model `Own` and their preservation by every step.
-/
namespace NLE.Own
open State

/-- `r` is what key `key` held after some successful mutation in the history. -/
def Historical (s : State) (key : String) (r : Rec) : Prop :=
  ∃ m ∈ s.hist, m.key = key ∧ m.after = some r

/-- Instance `i` wrote `own i tok _` on `key` at revision `rev`. -/
def OwnWrite (s : State) (i : Nat) (key : String) (rev tok : Nat) : Prop :=
  ∃ prio, Historical s key { val := .own i tok prio, rev := rev, writer := i }

/-- The legitimate kinds of change (C01) for a mutation made by an instance with configuration `c`:
    creation while no live record exists; a refresh by the writer of the previous version against
    exactly that revision, republishing the same identity and token; a revision-checked replacement
    with takeover enabled and strictly higher priority than the stored one.  Deletions are treated
    separately (`Theorems/C01.lean`). -/
def Legit (c : InstCfg) (m : Mut) : Prop :=
  m.key = c.key ∧
  match m.kind with
  | .create => m.before = none ∧ ∃ tok, ∃ r, m.after = some r ∧ r.val = .own c.id tok c.prio
  | .refresh => ∃ old tok p r, m.before = some old ∧ old.rev = m.exp ∧ old.writer = c.id ∧ old.val = .own c.id tok p ∧
                  m.after = some r ∧ r.val = .own c.id tok c.prio
  | .takeover => ∃ old tok r, m.before = some old ∧ old.rev = m.exp ∧ c.takeover = true ∧ outranks c.prio old.val = true ∧
                  m.after = some r ∧ r.val = .own c.id tok c.prio
  | _ => True

structure Inv (s : State) : Prop where
  idOK : ∀ i x, s.insts i = some x → x.cfg.id = i
  revLe : ∀ m ∈ s.hist, ∀ r, m.after = some r → r.rev ≤ s.seq
  liveHist : ∀ key r, s.store key = some r → Historical s key r
  revUniq : ∀ m1 ∈ s.hist, ∀ m2 ∈ s.hist, ∀ r1 r2, m1.after = some r1 → m2.after = some r2 → r1.rev = r2.rev →
              r1 = r2 ∧ m1.key = m2.key
  leadOwn : ∀ i x tok, s.insts i = some x → x.lead = some tok → OwnWrite s i x.cfg.key x.hbRev tok
  ackOwn : ∀ i x tok rev, s.insts i = some x → (tok, rev) ∈ x.acked → OwnWrite s i x.cfg.key rev tok
  seenHist : ∀ i x rev v, s.insts i = some x → (rev, v) ∈ x.seen → ∃ r, Historical s x.cfg.key r ∧ r.rev = rev ∧ r.val = v
  opInst : ∀ p ∈ s.ops, p.purpose ≠ .other → ∃ x, s.insts p.inst = some x ∧ p.key = x.cfg.key ∧
              (p.purpose ≠ .delete → ∃ tok, p.val = .own p.inst tok x.cfg.prio)
  hbOps : ∀ p ∈ s.ops, p.purpose = .heartbeat → ∃ tok prio, p.val = .own p.inst tok prio ∧ OwnWrite s p.inst p.key p.exp tok
  tkOps : ∀ p ∈ s.ops, p.purpose = .takeover → ∃ x, s.insts p.inst = some x ∧ x.cfg.takeover = true ∧
              ∃ r, Historical s p.key r ∧ r.rev = p.exp ∧ outranks x.cfg.prio r.val = true
  appliedOk : ∀ p ∈ s.ops, ∀ rev, p.applied = some (some rev) → (p.purpose = .create ∨ p.purpose = .takeover ∨ p.purpose = .heartbeat) →
              ∃ tok, valTok p.val = some tok ∧ OwnWrite s p.inst p.key rev tok
  histLegit : ∀ m ∈ s.hist, m.who ≠ 0 → ∃ x, s.insts m.who = some x ∧ Legit x.cfg m

/-- Operation ids are unique among the pending operations. -/
def OpsUniq (s : State) : Prop := ∀ p ∈ s.ops, ∀ q ∈ s.ops, p.id = q.id → p = q

/-! ### The invariant, instance by instance and operation by operation -/

/-- The clauses of `Inv` about the local variables of one instance. -/
structure InstOK (s : State) (i : Nat) (x : Inst) : Prop where
  id : x.cfg.id = i
  lead : ∀ tok, x.lead = some tok → OwnWrite s i x.cfg.key x.hbRev tok
  ack : ∀ tok rev, (tok, rev) ∈ x.acked → OwnWrite s i x.cfg.key rev tok
  seen : ∀ rev v, (rev, v) ∈ x.seen → ∃ r, Historical s x.cfg.key r ∧ r.rev = rev ∧ r.val = v

/-- The clauses of `Inv` about one pending operation. -/
structure OpOK (s : State) (p : POp) : Prop where
  inst : p.purpose ≠ .other → ∃ x, s.insts p.inst = some x ∧ p.key = x.cfg.key ∧
            (p.purpose ≠ .delete → ∃ tok, p.val = .own p.inst tok x.cfg.prio)
  hb : p.purpose = .heartbeat → ∃ tok prio, p.val = .own p.inst tok prio ∧ OwnWrite s p.inst p.key p.exp tok
  tk : p.purpose = .takeover → ∃ x, s.insts p.inst = some x ∧ x.cfg.takeover = true ∧
            ∃ r, Historical s p.key r ∧ r.rev = p.exp ∧ outranks x.cfg.prio r.val = true
  applied : ∀ rev, p.applied = some (some rev) → (p.purpose = .create ∨ p.purpose = .takeover ∨ p.purpose = .heartbeat) →
            ∃ tok, valTok p.val = some tok ∧ OwnWrite s p.inst p.key rev tok

theorem Inv.instOK {s : State} (inv : Inv s) {i x} (hx : s.insts i = some x) : InstOK s i x :=
  ⟨inv.idOK i x hx, fun t => inv.leadOwn i x t hx, fun t r => inv.ackOwn i x t r hx, fun r v => inv.seenHist i x r v hx⟩

theorem Inv.opOK {s : State} (inv : Inv s) {p} (hp : p ∈ s.ops) : OpOK s p :=
  ⟨inv.opInst p hp, inv.hbOps p hp, inv.tkOps p hp, inv.appliedOk p hp⟩

/-- The instance that issued a pending operation other than a plain read, and what the operation carries. -/
theorem Inv.issuer {s : State} (inv : Inv s) {p} (hp : p ∈ s.ops) (hne : p.purpose ≠ .other) :
    ∃ x, s.insts p.inst = some x ∧ x.cfg.id = p.inst ∧ p.key = x.cfg.key ∧
      (p.purpose ≠ .delete → ∃ tok, p.val = .own p.inst tok x.cfg.prio) := by
  obtain ⟨x, hx, hk, hv⟩ := inv.opInst p hp hne
  exact ⟨x, hx, inv.idOK _ x hx, hk, hv⟩

theorem Inv.of_parts {s : State} (hi : ∀ i x, s.insts i = some x → InstOK s i x) (ho : ∀ p ∈ s.ops, OpOK s p)
    (revLe : ∀ m ∈ s.hist, ∀ r, m.after = some r → r.rev ≤ s.seq)
    (liveHist : ∀ key r, s.store key = some r → Historical s key r)
    (revUniq : ∀ m1 ∈ s.hist, ∀ m2 ∈ s.hist, ∀ r1 r2, m1.after = some r1 → m2.after = some r2 → r1.rev = r2.rev →
              r1 = r2 ∧ m1.key = m2.key)
    (histLegit : ∀ m ∈ s.hist, m.who ≠ 0 → ∃ x, s.insts m.who = some x ∧ Legit x.cfg m) : Inv s :=
  ⟨fun i x h => (hi i x h).id, revLe, liveHist, revUniq, fun i x t h => (hi i x h).lead t, fun i x t r h => (hi i x h).ack t r,
   fun i x r v h => (hi i x h).seen r v, fun p hp => (ho p hp).inst, fun p hp => (ho p hp).hb, fun p hp => (ho p hp).tk,
   fun p hp => (ho p hp).applied, histLegit⟩

/-- Two historical records of the same revision are the same record. -/
theorem Inv.hist_eq_of_rev {s : State} (inv : Inv s) {k1 k2 r1 r2} (h1 : Historical s k1 r1) (h2 : Historical s k2 r2)
    (hr : r1.rev = r2.rev) : r1 = r2 := by
  obtain ⟨m1, hm1, _, ha1⟩ := h1
  obtain ⟨m2, hm2, _, ha2⟩ := h2
  exact (inv.revUniq m1 hm1 m2 hm2 r1 r2 ha1 ha2 hr).1

/-! ### Growth: what no step takes away -/

/-- `s'` extends `s`: the history has only grown, and every instance is still there with the configuration it had.
    The per-instance and per-operation clauses survive any extension. -/
structure Ext (s s' : State) : Prop where
  hist : ∀ m ∈ s.hist, m ∈ s'.hist
  insts : ∀ i x, s.insts i = some x → ∃ x', s'.insts i = some x' ∧ x'.cfg = x.cfg

theorem Historical.mono {s s' : State} {key r} (h : Historical s key r) (e : Ext s s') : Historical s' key r := by
  obtain ⟨m, hm, hk, ha⟩ := h
  exact ⟨m, e.hist m hm, hk, ha⟩

theorem OwnWrite.mono {s s' : State} {i key rev tok} (h : OwnWrite s i key rev tok) (e : Ext s s') :
    OwnWrite s' i key rev tok := by
  obtain ⟨p, hp⟩ := h
  exact ⟨p, hp.mono e⟩

theorem InstOK.mono {s s' : State} {i x} (h : InstOK s i x) (e : Ext s s') : InstOK s' i x :=
  ⟨h.id, fun t ht => (h.lead t ht).mono e, fun t r hm => (h.ack t r hm).mono e, fun rv v hm => by
    obtain ⟨r, hr, h1, h2⟩ := h.seen rv v hm
    exact ⟨r, hr.mono e, h1, h2⟩⟩

theorem OpOK.mono {s s' : State} {p} (h : OpOK s p) (e : Ext s s') : OpOK s' p where
  inst hne := by
    obtain ⟨x, hx, hk, hv⟩ := h.inst hne
    obtain ⟨x', hx', hc⟩ := e.insts _ x hx
    exact ⟨x', hx', hc ▸ hk, hc ▸ hv⟩
  hb hpu := by
    obtain ⟨t, pr, hv, ho⟩ := h.hb hpu
    exact ⟨t, pr, hv, ho.mono e⟩
  tk hpu := by
    obtain ⟨x, hx, ht, r, hr, h1, h2⟩ := h.tk hpu
    obtain ⟨x', hx', hc⟩ := e.insts _ x hx
    exact ⟨x', hx', hc ▸ ht, r, hr.mono e, h1, hc ▸ h2⟩
  applied rev ha hpu := by
    obtain ⟨t, hv, ho⟩ := h.applied rev ha hpu
    exact ⟨t, hv, ho.mono e⟩

theorem Ext.legit {s s' : State} (e : Ext s s') {m : Mut} (h : ∃ x, s.insts m.who = some x ∧ Legit x.cfg m) :
    ∃ x, s'.insts m.who = some x ∧ Legit x.cfg m := by
  obtain ⟨x, hx, hl⟩ := h
  obtain ⟨x', hx', hc⟩ := e.insts _ x hx
  exact ⟨x', hx', hc ▸ hl⟩

/-! ### The initial state -/

theorem inv_init : Inv ({} : State) :=
  .of_parts (fun _ _ h => by cases h) (fun _ h => by cases h) (fun _ h => by cases h) (fun _ _ h => by cases h)
    (fun _ h => by cases h) (fun _ h => by cases h)

/-! ### Preservation by the primitive updates -/

/-- New pending operations (and tokens in use); everything else as it was. -/
theorem inv_ops {s : State} (inv : Inv s) (ops' : List POp) (u : List Nat) (h : ∀ p ∈ ops', OpOK s p) :
    Inv { s with ops := ops', usedToks := u } :=
  ⟨inv.idOK, inv.revLe, inv.liveHist, inv.revUniq, inv.leadOwn, inv.ackOwn, inv.seenHist,
   fun p hp => (h p hp).inst, fun p hp => (h p hp).hb, fun p hp => (h p hp).tk, fun p hp => (h p hp).applied, inv.histLegit⟩

theorem inv_dropOp {s : State} (inv : Inv s) (o : Nat) : Inv (s.dropOp o) :=
  inv_ops inv _ _ fun _ hp => inv.opOK (mem_dropOp hp)

/-- Marking operation `p`: "applied at `rev`" has to be backed by the write. -/
theorem inv_markOp {s : State} (inv : Inv s) (uq : OpsUniq s) {op : Nat} {p : POp} (hp : s.op? op = some p) (r : Option Nat)
    (hr : ∀ rev, r = some rev → (p.purpose = .create ∨ p.purpose = .takeover ∨ p.purpose = .heartbeat) →
      ∃ tok, valTok p.val = some tok ∧ OwnWrite s p.inst p.key rev tok) : Inv (s.markOp op r) := by
  refine inv_ops inv _ _ fun q' hq' => ?_
  obtain ⟨q, hq, rfl⟩ := List.mem_map.mp hq'
  have ok := inv.opOK hq
  split
  · rename_i hid
    obtain rfl : q = p := uq q hq p (op?_mem hp).1 (hid.trans (op?_mem hp).2.symm)
    exact ⟨ok.inst, ok.hb, ok.tk, fun rev ha => hr rev (Option.some.inj ha)⟩
  · exact ok

/-- Setting the local variables of instance `i`: a new instance, or new variables under the configuration it had. -/
theorem inv_putInst {s : State} (inv : Inv s) {i : Nat} {x' : Inst} (hcfg : ∀ x, s.insts i = some x → x'.cfg = x.cfg)
    (ok : InstOK s i x') : Inv (s.setInst x') := by
  have e : Ext s (s.setInst x') := ⟨fun _ h => h, fun j y h => by
    by_cases hj : j = x'.cfg.id
    · exact ⟨x', if_pos hj, hcfg y (ok.id ▸ hj ▸ h)⟩
    · exact ⟨y, (if_neg hj).trans h, rfl⟩⟩
  refine .of_parts (fun j y h => ?_) (fun p hp => (inv.opOK hp).mono e) inv.revLe inv.liveHist inv.revUniq
    (fun m hm hw => e.legit (inv.histLegit m hm hw))
  by_cases hj : j = x'.cfg.id
  · obtain rfl : x' = y := Option.some.inj ((if_pos hj).symm.trans h)
    exact (hj.trans ok.id ▸ ok).mono e
  · exact (inv.instOK ((if_neg hj).symm.trans h)).mono e

theorem inv_setInst {s : State} (inv : Inv s) {i : Nat} {x x' : Inst} (hx : s.insts i = some x) (hcfg : x'.cfg = x.cfg)
    (ok : InstOK s i x') : Inv (s.setInst x') :=
  inv_putInst inv (fun _ hy => Option.some.inj (hx.symm.trans hy) ▸ hcfg) ok

/-- Declaring a new instance. -/
theorem inv_addInst {s : State} (inv : Inv s) (c : InstCfg) (hfree : s.insts c.id = none) : Inv (s.setInst { cfg := c }) :=
  inv_putInst inv (fun _ hy => nomatch hfree.symm.trans hy)
    ⟨rfl, fun _ h => (nomatch h), fun _ _ h => (nomatch h), fun _ _ h => (nomatch h)⟩

/-- Replacing an instance's local variables by ones with the same term, revision field, acknowledged writes and reads. -/
theorem inv_book {s : State} (inv : Inv s) {i : Nat} {x x' : Inst} (hx : s.insts i = some x) (hb : Book x x') :
    Inv (s.setInst x') := by
  have ok := inv.instOK hx
  exact inv_setInst inv hx hb.cfg
    ⟨hb.cfg ▸ ok.id, hb.cfg ▸ hb.lead ▸ hb.hbRev ▸ ok.lead, hb.cfg ▸ hb.acked ▸ ok.ack, hb.cfg ▸ hb.seen ▸ ok.seen⟩

/-- A change of the world, recorded as `m`: at a revision above all earlier ones if it leaves a record, and legitimate if
    an instance made it. -/
theorem inv_change {s : State} (inv : Inv s) {m : Mut} {seq' : Nat} (hseq : s.seq ≤ seq')
    (hnew : ∀ r, m.after = some r → r.rev = seq' ∧ s.seq < seq')
    (hlegit : m.who ≠ 0 → ∃ x, s.insts m.who = some x ∧ Legit x.cfg m) : Inv (s.change m seq') := by
  have e : Ext s (s.change m seq') := ⟨fun _ h => List.mem_cons_of_mem _ h, fun _ x h => ⟨x, h, rfl⟩⟩
  have old : ∀ m' ∈ s.hist, ∀ r, m'.after = some r → r.rev ≤ s.seq := inv.revLe
  refine .of_parts (fun i x h => (inv.instOK h).mono e) (fun p hp => (inv.opOK hp).mono e) ?_ ?_ ?_ ?_
  · intro m' hm' r ha
    show r.rev ≤ seq'
    rcases List.mem_cons.mp hm' with rfl | hm'
    · exact Nat.le_of_eq (hnew r ha).1
    · exact Nat.le_trans (old m' hm' r ha) hseq
  · intro k r hk
    by_cases hkk : k = m.key
    · exact ⟨m, List.mem_cons_self .., hkk.symm, ((if_pos hkk).symm.trans hk)⟩
    · exact (inv.liveHist k r ((if_neg hkk).symm.trans hk)).mono e
  · intro m1 hm1 m2 hm2 r1 r2 h1 h2 hr
    rcases List.mem_cons.mp hm1 with rfl | hm1 <;> rcases List.mem_cons.mp hm2 with rfl | hm2
    · exact ⟨Option.some.inj (h1.symm.trans h2), rfl⟩
    · have := hnew r1 h1; have := old m2 hm2 r2 h2; omega
    · have := hnew r2 h2; have := old m1 hm1 r1 h1; omega
    · exact inv.revUniq m1 hm1 m2 hm2 r1 r2 h1 h2 hr
  · intro m' hm' hw
    rcases List.mem_cons.mp hm' with rfl | hm'
    · exact hlegit hw
    · exact inv.histLegit m' hm' hw

/-! ### Preservation, handler by handler -/

theorem inv_stepCall {s s' : State} (inv : Inv s) {t op i kind key exp val}
    (h : stepCall s t op i kind key exp val = .ok s') : Inv s' := by
  obtain ⟨x, p, u, hx, -, hkey, -, rfl, hpk, hna, -, hi, rfl⟩ := stepCall_ok h
  have hk : p.key = x.cfg.key := hpk.trans hkey
  refine inv_ops inv _ _ (List.forall_mem_cons.2 ⟨⟨?_, ?_, ?_, fun _ ha => by rw [hna] at ha; cases ha⟩, fun _ => inv.opOK⟩)
  · intro _
    refine ⟨x, hx, hk, fun hnd => ?_⟩
    cases hi with
    | create _ hv | heartbeat _ hv | takeover _ hv => exact ⟨_, hv⟩
    | delete hpu => exact absurd hpu hnd
    | other hpu => exact absurd hpu ‹_›
  · intro hpu
    cases hi with
    | heartbeat _ hv hl he => exact ⟨_, _, hv, he ▸ hk ▸ inv.leadOwn _ x _ hx hl⟩
    | create h' | takeover h' | delete h' | other h' => rw [h'] at hpu; cases hpu
  · intro hpu
    cases hi with
    | takeover _ _ _ htk =>
      simp only [takeoverAllowed, Bool.and_eq_true, decide_eq_true_eq, List.any_eq_true, beq_iff_eq] at htk
      obtain ⟨⟨htko, _⟩, rv, hrv, he, ho⟩ := htk
      obtain ⟨r, hr, hr1, hr2⟩ := inv.seenHist _ x rv.1 rv.2 hx hrv
      exact ⟨x, hx, htko, r, hk ▸ hr, hr1.trans he, hr2 ▸ ho⟩
    | create h' | heartbeat h' | delete h' | other h' => rw [h'] at hpu; cases hpu

theorem inv_stepApply {s s' : State} (inv : Inv s) (uq : OpsUniq s) {op a} (h : stepApply s op a = .ok s') : Inv s' := by
  obtain ⟨p, hp, -, ⟨r, hr, rfl⟩ | ⟨rev, m, hrev, ha, rfl⟩⟩ := stepApply_ok h
  · refine inv_markOp inv uq hp r fun rev hrr hpu => ?_
    rcases hr with rfl | hr
    · cases hrr
    · rw [hr] at hpu; simp at hpu
  have hpm := (op?_mem hp).1
  have issuer := inv.issuer hpm
  have hchange : Inv (s.change m rev) := by
    refine inv_change inv (by omega) ?_ fun _ => ?_
    · cases ha with
      | create | refresh | takeover => intro r hr; cases hr; exact ⟨rfl, by omega⟩
      | delete => exact fun _ h => nomatch h
    · cases ha with
      | create hpu hlive =>
        obtain ⟨x, hx, hid, hk, hv⟩ := issuer (by simp [hpu])
        obtain ⟨tok, hval⟩ := hv (by simp [hpu])
        exact ⟨x, hx, hk, rfl, tok, _, rfl, by rw [hid]; exact hval⟩
      | @refresh old hpu hold hexp =>
        obtain ⟨x, hx, hid, hk, hv⟩ := issuer (by simp [hpu])
        obtain ⟨tok, hval⟩ := hv (by simp [hpu])
        obtain ⟨tok', prio', hval', pr, how⟩ := inv.hbOps p hpm hpu
        obtain rfl : tok = tok' := by rw [hval] at hval'; cases hval'; rfl
        -- the live record at the presented revision is the own write
        obtain rfl := inv.hist_eq_of_rev (inv.liveHist p.key old hold) how hexp
        exact ⟨x, hx, hk, _, tok, pr, _, rfl, hexp, hid.symm, by rw [hid], rfl, by rw [hid]; exact hval⟩
      | @takeover old hpu hold hexp =>
        obtain ⟨x, hx, hid, hk, hv⟩ := issuer (by simp [hpu])
        obtain ⟨tok, hval⟩ := hv (by simp [hpu])
        obtain ⟨x', hx', htk, r', hr', hr1, hr2⟩ := inv.tkOps p hpm hpu
        obtain rfl : x = x' := Option.some.inj (hx.symm.trans hx')
        obtain rfl := inv.hist_eq_of_rev (inv.liveHist p.key old hold) hr' (hexp.trans hr1.symm)
        exact ⟨x, hx, hk, _, tok, _, rfl, hexp, htk, hr2, rfl, by rw [hid]; exact hval⟩
      | delete hpu =>
        obtain ⟨x, hx, -, hk, -⟩ := issuer (by simp [hpu])
        exact ⟨x, hx, hk, trivial⟩
  refine inv_markOp (s := s.change m rev) hchange uq hp _ fun rev' hrr hpu => ?_
  cases hrr
  obtain ⟨x, -, -, -, hv⟩ := issuer (by rcases hpu with h | h | h <;> simp [h])
  cases ha with
  | create | refresh | takeover =>
    obtain ⟨tok, hval⟩ := hv (by rcases hpu with h | h | h <;> simp [h])
    exact ⟨tok, by rw [hval]; rfl, x.cfg.prio, _, List.mem_cons_self .., rfl, by rw [← hval]; rfl⟩
  | delete h' => rcases hpu with h | h | h <;> rw [h'] at h <;> cases h

theorem inv_stepRet {s s' : State} (inv : Inv s) {t op r} (h : stepRet s t op r = .ok s') : Inv s' := by
  obtain ⟨p, hp, rfl | ⟨x, x', hx, hr, rfl⟩⟩ := stepRet_ok h
  · exact inv_dropOp inv op
  have hpm := (op?_mem hp).1
  have ok := inv.instOK hx
  -- an acquiring or refreshing write that was applied is an own write on the instance's key
  have applied : ∀ rev, p.applied = some (some rev) → (p.purpose = .create ∨ p.purpose = .takeover ∨ p.purpose = .heartbeat) →
      ∃ tok, valTok p.val = some tok ∧ OwnWrite s p.inst x.cfg.key rev tok := fun rev ha hpu => by
    obtain ⟨tok, hv, ho⟩ := inv.appliedOk p hpm rev ha hpu
    obtain ⟨y, hy, hk, _⟩ := inv.opInst p hpm (by rcases hpu with h | h | h <;> simp [h])
    obtain rfl : x = y := Option.some.inj (hx.symm.trans hy)
    exact ⟨tok, hv, hk ▸ ho⟩
  refine inv_dropOp (s := s.setInst x') (inv_setInst inv hx ?_ ?_) op
  · cases hr <;> rfl
  cases hr with
  | acked hpu happ hv =>
    obtain ⟨tok, hv', ho⟩ := applied _ happ (hpu.elim .inl (.inr ∘ .inl))
    obtain rfl := Option.some.inj (hv.symm.trans hv')
    refine ⟨ok.id, ok.lead, fun t' r' hm => ?_, ok.seen⟩
    rcases List.mem_cons.mp hm with h | hm
    · cases h; exact ho
    · exact ok.ack t' r' hm
  | refreshed hpu happ hl =>
    obtain ⟨tok, hv, ho⟩ := applied _ happ (.inr (.inr hpu))
    exact ⟨ok.id, fun t' ht' => by obtain rfl := Option.some.inj (ht'.symm.trans (hl.trans hv)); exact ho, ok.ack, ok.seen⟩
  | read hk hh =>
    refine ⟨ok.id, ok.lead, ok.ack, fun r' v' hm => ?_⟩
    rcases List.mem_cons.mp hm with h | hm
    · cases h; exact hk ▸ hh
    · exact ok.seen r' v' hm

theorem inv_stepFlag {s s' : State} (inv : Inv s) {i il tok} (h : stepFlag s i il tok = .ok s') : Inv s' := by
  obtain ⟨-, rfl⟩ | ⟨x, hx, ⟨-, -, rfl⟩ | ⟨-, rfl⟩ | ⟨rev, -, -, hm, rfl⟩⟩ := stepFlag_ok h
  · exact inv
  · exact inv
  · have ok := inv.instOK hx
    exact inv_setInst inv hx rfl ⟨ok.id, fun _ h => (nomatch h), ok.ack, ok.seen⟩
  · have ok := inv.instOK hx
    exact inv_setInst inv hx rfl
      ⟨ok.id, fun t ht => by cases ht; exact ok.ack _ _ hm, fun t r hm => ok.ack t r (List.mem_filter.mp hm).1, ok.seen⟩

/-- Every step preserves the invariant. -/
theorem inv_step {s s' : State} (inv : Inv s) (uq : OpsUniq s) {e : TEv} (h : step s e = .ok s') : Inv s' := by
  cases step_ok h with
  | inst c hfree h => exact h ▸ inv_addInst inv c hfree
  | call h => exact inv_stepCall inv h
  | apply h => exact inv_stepApply inv uq h
  | ret h => exact inv_stepRet inv h
  | flag h => exact inv_stepFlag inv h
  | outside ho h => exact h ▸ inv_change inv ho.seq ho.rev fun hw => absurd ho.who hw
  | book hx hb h => exact h ▸ inv_book inv hx hb
  | skip h => exact h ▸ inv

/-! ### Unique operation ids -/

theorem uniq_of_ops_eq {s s' : State} (uq : OpsUniq s) (h : s'.ops = s.ops) : OpsUniq s' := by
  unfold OpsUniq; rw [h]; exact uq

theorem uniq_dropOp {s : State} (uq : OpsUniq s) (o : Nat) : OpsUniq (s.dropOp o) :=
  fun a ha b hb => uq a (mem_dropOp ha) b (mem_dropOp hb)

/-- `markOp` changes no id. -/
theorem uniq_markOp {s : State} (uq : OpsUniq s) (op : Nat) (r : Option Nat) : OpsUniq (s.markOp op r) := by
  intro a' ha' b' hb' hab
  obtain ⟨a, ha, rfl⟩ := List.mem_map.mp ha'
  obtain ⟨b, hb, rfl⟩ := List.mem_map.mp hb'
  have hid : ∀ q : POp, (if q.id = op then { q with applied := some r } else q).id = q.id := fun q => by split <;> rfl
  rw [hid, hid] at hab
  rw [uq a ha b hb hab]

theorem uniq_step {s s' : State} (uq : OpsUniq s) {e : TEv} (h : step s e = .ok s') : OpsUniq s' := by
  cases step_ok h with
  | call h =>
    obtain ⟨x, p, u, -, hfree, -, rfl, -, -, -, -, -, rfl⟩ := stepCall_ok h
    intro a ha' b hb' hab
    rcases List.mem_cons.mp ha' with rfl | ha <;> rcases List.mem_cons.mp hb' with rfl | hb
    · rfl
    · exact absurd hab.symm (op?_none hfree b hb)
    · exact absurd hab (op?_none hfree a ha)
    · exact uq a ha b hb hab
  | apply h =>
    obtain ⟨p, -, -, ⟨r, -, rfl⟩ | ⟨rev, m, -, -, rfl⟩⟩ := stepApply_ok h
    · exact uniq_markOp uq _ r
    · exact uniq_markOp (s := s.change m rev) uq _ _
  | ret h =>
    obtain ⟨p, -, rfl | ⟨x, x', -, -, rfl⟩⟩ := stepRet_ok h
    · exact uniq_dropOp uq _
    · exact uniq_dropOp uq _
  | flag h =>
    obtain ⟨-, rfl⟩ | ⟨x, -, ⟨-, -, rfl⟩ | ⟨-, rfl⟩ | ⟨rev, -, -, -, rfl⟩⟩ := stepFlag_ok h <;> exact uq
  | inst _ _ h | outside _ h | book _ _ h | skip h => exact uniq_of_ops_eq uq (h ▸ rfl)

/-- Every state the model can reach satisfies the invariant. -/
theorem run_inv {s s' : State} (inv : Inv s) (uq : OpsUniq s) (evs : List TEv) (h : run s evs = .ok s') :
    Inv s' ∧ OpsUniq s' :=
  Fold.except_inv (I := fun s => Inv s ∧ OpsUniq s) (fun _ => rfl) (fun _ _ _ => rfl)
    (fun a h => ⟨inv_step a.1 a.2 h, uniq_step a.2 h⟩) evs ⟨inv, uq⟩ h

theorem reachable_inv {s : State} {evs : List TEv} (h : run {} evs = .ok s) : Inv s :=
  (run_inv inv_init (fun _ h => by cases h) evs h).1

end NLE.Own
