/-
  Every acceptor of the development is a fold of a partial step function over a list of events, and the decision
  functions of the heartbeat loop are scans for the first element at which a threaded decision fires.  What is proved
  of such a function by induction on the list is proved here once, about variables: `run`, `g` are any functions with
  the two equations of a fold, of a scan.
-/
namespace NLE.Fold
variable {σ α ε : Type}

/-- A property that every accepted step preserves holds at the end of every accepted run (`Except` acceptors). -/
theorem except_inv {step : σ → α → Except ε σ} {run : σ → List α → Except ε σ}
    (nil : ∀ s, run s [] = .ok s) (cons : ∀ s a as, run s (a :: as) = (step s a).bind (run · as))
    {I : σ → Prop} (hstep : ∀ {s a s'}, I s → step s a = .ok s' → I s') :
    ∀ (as : List α) {s s' : σ}, I s → run s as = .ok s' → I s'
  | [], s, _, inv, h => by rw [nil] at h; cases h; exact inv
  | a :: as, s, _, inv, h => by
    rw [cons] at h
    cases h1 : step s a <;> rw [h1] at h
    · cases h
    · exact except_inv nil cons hstep as (hstep inv h1) h

/-- The same for `Option` acceptors. -/
theorem option_inv {step : σ → α → Option σ} {run : σ → List α → Option σ}
    (nil : ∀ s, run s [] = some s)
    (cons : ∀ s a as, run s (a :: as) = (step s a).bind (run · as))
    {I : σ → Prop} (hstep : ∀ {s a s'}, I s → step s a = some s' → I s') :
    ∀ (as : List α) {s s' : σ}, I s → run s as = some s' → I s'
  | [], s, _, inv, h => by rw [nil] at h; cases h; exact inv
  | a :: as, s, _, inv, h => by
    rw [cons] at h
    cases h1 : step s a <;> rw [h1] at h
    · cases h
    · exact option_inv nil cons hstep as (hstep inv h1) h

/-- A scan `g` threads a state through `f` and reports the index of the first element at which `f` fires.  With `S`
    giving the state from the elements seen so far, and `P` saying when `f` fires on the next one: `g` reports `n` iff
    `n` is the first index at which `P` holds. -/
theorem scan_eq_some {f : σ → α → σ × Bool} {g : σ → Nat → List α → Option Nat} {S : List α → σ}
    {P : List α → Option α → Prop}
    (nil : ∀ st i, g st i [] = none)
    (cons : ∀ st i x xs, g st i (x :: xs) = if (f st x).2 then some i else g (f st x).1 (i + 1) xs)
    (snoc : ∀ pre x, S (pre ++ [x]) = (f (S pre) x).1) (fire : ∀ pre x, (f (S pre) x).2 = true ↔ P pre (some x)) :
    ∀ (xs pre : List α) (i n : Nat), g (S pre) i xs = some n ↔
      ∃ k, n = i + k ∧ k < xs.length ∧ P (pre ++ xs.take k) xs[k]? ∧ ∀ k' < k, ¬ P (pre ++ xs.take k') xs[k']?
  | [], pre, i, n => by simp [nil]
  | x :: xs, pre, i, n => by
    rw [cons]
    by_cases hd : (f (S pre) x).2 = true
    · have hP : P (pre ++ (x :: xs).take 0) (x :: xs)[0]? := by simpa using (fire pre x).mp hd
      rw [if_pos hd]
      constructor
      · rintro ⟨⟩; exact ⟨0, rfl, Nat.succ_pos _, hP, nofun⟩
      · rintro ⟨k, rfl, _, _, hmin⟩
        cases k with
        | zero => rfl
        | succ k => exact absurd hP (hmin 0 (Nat.succ_pos k))
    · have hP : ¬ P (pre ++ (x :: xs).take 0) (x :: xs)[0]? := by simpa using mt (fire pre x).mpr hd
      -- the rest is scanned from the state `S (pre ++ [x])`: the same statement, one index further
      rw [if_neg hd, ← snoc, scan_eq_some nil cons snoc fire xs (pre ++ [x]) (i + 1) n]
      constructor
      · rintro ⟨k, rfl, hk, h, hmin⟩
        refine ⟨k + 1, by omega, Nat.succ_lt_succ hk, by simpa using h, fun k' hk' => ?_⟩
        cases k' with
        | zero => exact hP
        | succ k' => simpa using hmin k' (by omega)
      · rintro ⟨k, rfl, hk, h, hmin⟩
        cases k with
        | zero => exact absurd h hP
        | succ k =>
          exact ⟨k, by omega, Nat.lt_of_succ_lt_succ hk, by simpa using h, fun k' hk' => by simpa using hmin (k' + 1) (by omega)⟩

end NLE.Fold
