import NLE.Proofs.OwnInv
/-
  Token freshness in the ownership model (C05): every acquiring write publishes a token that occurs
  in no earlier version of any record.
-/
namespace NLE.Own
open State

def histToks (s : State) : List Nat := s.hist.flatMap afterToks

def Acq (p : POp) : Prop := p.purpose = .create ∨ p.purpose = .takeover
def NotWritten (p : POp) : Prop := p.applied = none ∨ p.applied = some none

/-- Newest-first history: the token of every acquiring write (create, takeover) occurs in no older version. -/
def FreshHist : List Mut → Prop
  | [] => True
  | m :: post => FreshHist post ∧ ((m.kind = .create ∨ m.kind = .takeover) → ∀ t ∈ afterToks m, t ∉ post.flatMap afterToks)

structure TokInv (s : State) : Prop where
  histUsed : ∀ t ∈ histToks s, t ∈ s.usedToks
  acqUsed : ∀ p ∈ s.ops, Acq p → ∀ t, valTok p.val = some t → t ∈ s.usedToks
  acqFresh : ∀ p ∈ s.ops, Acq p → NotWritten p → ∀ t, valTok p.val = some t → t ∉ histToks s
  acqDistinct : ∀ p ∈ s.ops, ∀ q ∈ s.ops, Acq p → Acq q → ∀ t, valTok p.val = some t → valTok q.val = some t → p.id = q.id
  fresh : FreshHist s.hist

theorem tok_init : TokInv ({} : State) :=
  ⟨fun _ h => (by cases h), fun _ h => (by cases h), fun _ h => (by cases h), fun _ h => (by cases h), trivial⟩

theorem valToks_own (i t : Nat) (p : Int) : valToks (.own i t p) = [t] := rfl

theorem valTok_some_own {v : Val} {t : Nat} (h : valTok v = some t) : ∃ i p, v = .own i t p := by
  cases v with
  | own i t' p => cases h; exact ⟨i, p, rfl⟩
  | raw _ => cases h
  | empty => cases h

theorem ownWrite_tok_mem {s : State} {i key rev tok} (h : OwnWrite s i key rev tok) : tok ∈ histToks s := by
  obtain ⟨prio, m, hm, _, ha⟩ := h
  exact List.mem_flatMap.mpr ⟨m, hm, by simp [afterToks, ha, valToks]⟩

/-! ### Preservation by the primitive updates -/

/-- The pending operations `ops'` are operations of `ops` (same id, purpose and payload), none less written than before. -/
def OpsRefine (ops' ops : List POp) : Prop :=
  ∀ p' ∈ ops', ∃ p ∈ ops, p'.id = p.id ∧ p'.purpose = p.purpose ∧ p'.val = p.val ∧ (NotWritten p' → NotWritten p)

theorem OpsRefine.of_subset {ops' ops : List POp} (h : ∀ p ∈ ops', p ∈ ops) : OpsRefine ops' ops :=
  fun p hp => ⟨p, h p hp, rfl, rfl, rfl, id⟩

/-- Re-marking operation `op`, which had not been applied. -/
theorem OpsRefine.mark (s : State) (op : Nat) (r : Option Nat) (hnone : ∀ p ∈ s.ops, p.id = op → p.applied = none) :
    OpsRefine (s.markOp op r).ops s.ops := by
  intro p' hp'
  obtain ⟨q, hq, rfl⟩ := List.mem_map.mp hp'
  refine ⟨q, hq, ?_⟩
  split
  · exact ⟨rfl, rfl, rfl, fun _ => .inl (hnone q hq ‹_›)⟩
  · exact ⟨rfl, rfl, rfl, id⟩

/-- The world changes as recorded by `m`: no pending unwritten acquisition may hold a token of the new version, and the
    new version's tokens must be new to the history if `m` is itself an acquisition. -/
theorem tok_change {s s' : State} (ti : TokInv s) (m : Mut) (hops : s'.ops = s.ops) (hh : s'.hist = m :: s.hist)
    (hu : s'.usedToks = afterToks m ++ s.usedToks)
    (hpend : ∀ p ∈ s.ops, Acq p → NotWritten p → ∀ t, valTok p.val = some t → t ∉ afterToks m)
    (hacq : (m.kind = .create ∨ m.kind = .takeover) → ∀ t ∈ afterToks m, t ∉ histToks s) : TokInv s' := by
  have hht : histToks s' = afterToks m ++ histToks s := by unfold histToks; rw [hh]; rfl
  constructor
  · intro t ht
    rw [hht] at ht; rw [hu]
    exact (List.mem_append.mp ht).elim (List.mem_append_left _) fun h => List.mem_append_right _ (ti.histUsed t h)
  · intro p hp ha t hv
    rw [hops] at hp; rw [hu]
    exact List.mem_append_right _ (ti.acqUsed p hp ha t hv)
  · intro p hp ha hn t hv
    rw [hops] at hp; rw [hht]
    exact fun hmem => (List.mem_append.mp hmem).elim (hpend p hp ha hn t hv) (ti.acqFresh p hp ha hn t hv)
  · rw [hops]; exact ti.acqDistinct
  · rw [hh]; exact ⟨ti.fresh, hacq⟩

/-- The pending operations are re-marked or dropped; history and tokens in use as they were. -/
theorem tok_refine {s s' : State} (ti : TokInv s) (hops : OpsRefine s'.ops s.ops) (hh : s'.hist = s.hist)
    (hu : s'.usedToks = s.usedToks) : TokInv s' := by
  have hht : histToks s' = histToks s := by unfold histToks; rw [hh]
  have old : ∀ {p'}, p' ∈ s'.ops → Acq p' → ∃ p ∈ s.ops, p'.id = p.id ∧ Acq p ∧ p'.val = p.val ∧ (NotWritten p' → NotWritten p) :=
    fun hp' ha => by
      obtain ⟨p, hp, hid, hpu, hval, hnw⟩ := hops _ hp'
      exact ⟨p, hp, hid, by unfold Acq at *; rw [← hpu]; exact ha, hval, hnw⟩
  constructor
  · rw [hht, hu]; exact ti.histUsed
  · intro p' hp' ha t hv
    obtain ⟨p, hp, -, ha, hval, -⟩ := old hp' ha
    rw [hu]
    exact ti.acqUsed p hp ha t (hval ▸ hv)
  · intro p' hp' ha hn t hv
    obtain ⟨p, hp, -, ha', hval, hnw⟩ := old hp' ha
    rw [hht]
    exact ti.acqFresh p hp ha' (hnw hn) t (hval ▸ hv)
  · intro p' hp' q' hq' ha hb t hv hw
    obtain ⟨p, hp, hid, ha, hval, -⟩ := old hp' ha
    obtain ⟨q, hq, hid2, hb, hval2, -⟩ := old hq' hb
    rw [hid, hid2]
    exact ti.acqDistinct p hp q hq ha hb t (hval ▸ hv) (hval2 ▸ hw)
  · rw [hh]; exact ti.fresh

/-- A new pending operation, putting the tokens `u`, never used before, in use: among them its own if it is an acquisition. -/
theorem tok_addOp {s s' : State} (ti : TokInv s) (p : POp) (u : List Nat) (hfresh : ∀ t ∈ u, t ∉ s.usedToks)
    (hp : Acq p → ∀ t, valTok p.val = some t → t ∈ u) (hops : s'.ops = p :: s.ops) (hh : s'.hist = s.hist)
    (hu : s'.usedToks = u ++ s.usedToks) : TokInv s' := by
  have hht : histToks s' = histToks s := by unfold histToks; rw [hh]
  constructor
  · intro t ht; rw [hht] at ht; rw [hu]; exact List.mem_append_right _ (ti.histUsed t ht)
  · intro q hq ha t hv
    rw [hops] at hq; rw [hu]
    rcases List.mem_cons.mp hq with rfl | hq
    · exact List.mem_append_left _ (hp ha t hv)
    · exact List.mem_append_right _ (ti.acqUsed q hq ha t hv)
  · intro q hq ha hn t hv
    rw [hops] at hq; rw [hht]
    rcases List.mem_cons.mp hq with rfl | hq
    · exact fun hmem => hfresh t (hp ha t hv) (ti.histUsed t hmem)
    · exact ti.acqFresh q hq ha hn t hv
  · intro a ha' b hb' h1 h2 t hva hvb
    rw [hops] at ha' hb'
    rcases List.mem_cons.mp ha' with rfl | ha <;> rcases List.mem_cons.mp hb' with rfl | hb
    · rfl
    · exact absurd (ti.acqUsed b hb h2 t hvb) (hfresh t (hp h1 t hva))
    · exact absurd (ti.acqUsed a ha h1 t hva) (hfresh t (hp h2 t hvb))
    · exact ti.acqDistinct a ha b hb h1 h2 t hva hvb
  · rw [hh]; exact ti.fresh

/-! ### Preservation by every step -/

theorem tok_step {s s' : State} (inv : Inv s) (uq : OpsUniq s) (ti : TokInv s) {e : TEv} (h : step s e = .ok s') : TokInv s' := by
  have same : ∀ {s' : State}, s'.ops = s.ops → s'.hist = s.hist → s'.usedToks = s.usedToks → TokInv s' :=
    fun ho => tok_refine ti (ho ▸ .of_subset fun _ h => h)
  cases step_ok h with
  | call h =>
    obtain ⟨x, p, u, -, -, -, -, -, -, -, -, hi, rfl⟩ := stepCall_ok h
    refine tok_addOp ti p u ?_ ?_ rfl rfl rfl
    · cases hi with
      | create _ _ hu | takeover _ _ hu => intro t ht; cases List.mem_singleton.mp ht; exact hu
      | heartbeat | delete | other => exact fun _ h => nomatch h
    · intro ha t hv
      cases hi with
      | create _ hval | takeover _ hval => rw [hval] at hv; cases hv; exact List.mem_singleton_self _
      | heartbeat h' | delete h' | other h' => rcases ha with h | h <;> rw [h'] at h <;> cases h
  | apply h =>
    obtain ⟨p, hp, hna, happ⟩ := stepApply_ok h
    obtain ⟨hpm, rfl⟩ := op?_mem hp
    have mark : ∀ r, TokInv (s.markOp p.id r) := fun r =>
      tok_refine ti (.mark s _ r fun q hq hid => by rw [uq q hq p hpm hid]; exact hna) rfl rfl
    obtain ⟨r, -, rfl⟩ | ⟨rev, m, -, ha, rfl⟩ := happ
    · exact mark r
    -- the tokens of the new version are `p`'s token: unpublished so far if `p` acquires, the term's own if it refreshes
    have key : ∀ t ∈ afterToks m, valTok p.val = some t ∧ (Acq p ∨ t ∈ histToks s) ∧
        ((m.kind = .create ∨ m.kind = .takeover) → Acq p) := by
      have own : p.purpose ≠ .other → p.purpose ≠ .delete → ∀ t ∈ valToks p.val, valTok p.val = some t := fun h1 h2 t ht => by
        obtain ⟨x, -, -, hv⟩ := inv.opInst p hpm h1
        obtain ⟨tok, hval⟩ := hv h2
        rw [hval, valToks_own] at ht
        rw [hval, List.mem_singleton.mp ht]; rfl
      cases ha with
      | create hpu => exact fun t ht => ⟨own (by simp [hpu]) (by simp [hpu]) t ht, .inl (.inl hpu), fun _ => .inl hpu⟩
      | takeover hpu => exact fun t ht => ⟨own (by simp [hpu]) (by simp [hpu]) t ht, .inl (.inr hpu), fun _ => .inr hpu⟩
      | refresh hpu =>
        intro t ht
        obtain ⟨tok, prio, hval, how⟩ := inv.hbOps p hpm hpu
        have hv := own (by simp [hpu]) (by simp [hpu]) t ht
        refine ⟨hv, .inr ?_, fun hk => by rcases hk with hk | hk <;> cases hk⟩
        rw [hval] at hv; cases hv
        exact ownWrite_tok_mem how
      | delete => exact fun _ h => nomatch h
    refine tok_change (mark (some rev)) m rfl rfl rfl (fun q' hq' haq hn t hv hmem => ?_) fun hk t ht => ?_
    · obtain ⟨q, hq, rfl⟩ := List.mem_map.mp hq'
      obtain ⟨hvp, hsrc, -⟩ := key t hmem
      by_cases hid : q.id = p.id
      · rw [if_pos hid] at hn; rcases hn with h | h <;> cases h
      · rw [if_neg hid] at haq hn hv
        rcases hsrc with hap | hmem
        · exact hid (ti.acqDistinct p hpm q hq hap haq t hvp hv).symm
        · exact ti.acqFresh q hq haq hn t hv hmem
    · obtain ⟨hvp, -, hap⟩ := key t ht
      exact ti.acqFresh p hpm (hap hk) (.inl hna) t hvp
  | ret h =>
    obtain ⟨p, -, rfl | ⟨x, x', -, -, rfl⟩⟩ := stepRet_ok h <;>
      exact tok_refine ti (.of_subset fun _ => mem_dropOp) rfl rfl
  | flag h =>
    obtain ⟨-, rfl⟩ | ⟨x, -, ⟨-, -, rfl⟩ | ⟨-, rfl⟩ | ⟨rev, -, -, -, rfl⟩⟩ := stepFlag_ok h <;> exact same rfl rfl rfl
  | outside ho h =>
    subst h
    refine tok_change ti _ rfl rfl rfl (fun p hp ha hn t hv hmem => ho.toks t hmem ?_) fun hk => ?_
    · exact List.mem_filterMap.mpr ⟨p, hp, (if_pos ⟨ha, hn⟩).trans hv⟩
    · rcases ho.kind with h | h <;> rw [h] at hk <;> rcases hk with hk | hk <;> cases hk
  | inst _ _ h | book _ _ h | skip h => subst h; exact same rfl rfl rfl

theorem run_tok {s s' : State} (inv : Inv s) (uq : OpsUniq s) (ti : TokInv s) (evs : List TEv) (h : run s evs = .ok s') :
    TokInv s' :=
  (Fold.except_inv (I := fun s => (Inv s ∧ OpsUniq s) ∧ TokInv s) (fun _ => rfl) (fun _ _ _ => rfl)
    (fun a h => ⟨⟨inv_step a.1.1 a.1.2 h, uniq_step a.1.2 h⟩, tok_step a.1.1 a.1.2 a.2 h⟩) evs ⟨⟨inv, uq⟩, ti⟩ h).2

theorem reachable_tok {s : State} {evs : List TEv} (h : run {} evs = .ok s) : TokInv s :=
  run_tok inv_init (fun _ h => by cases h) tok_init evs h

end NLE.Own
