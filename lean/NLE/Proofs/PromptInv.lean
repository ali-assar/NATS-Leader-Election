import NLE.Model.Prompt
import NLE.Proofs.Fold
import NLE.Proofs.Guard
namespace NLE.Prompt

/-- Latest instant by which the follower leads, from the state of the mechanism. -/
def dl (p : Par) (s : St) : Nat :=
  match s.att with
  | some a => a + 3 * p.L
  | none =>
    if s.pend then (if s.known then s.lastHb + p.W + 3 * p.L else s.lastHb + (p.H + p.L) + p.W + 3 * p.L)
    else (if s.known then s.lastHb + (p.H + p.L) + p.W + 3 * p.L else s.lastHb + 2 * (p.H + p.L) + p.W + 3 * p.L)

structure Inv (p : Par) (s : St) : Prop where
  hbLe : s.lastHb ≤ s.now
  hbDue : s.lead = false → s.now ≤ s.lastHb + p.H + p.L
  pendDue : s.lead = false → s.pend = true → s.now ≤ s.lastHb + p.W
  attOK : s.lead = false → ∀ a, s.att = some a → s.lastHb ≤ a ∧ a ≤ s.lastHb + p.W ∧ a ≤ s.now ∧ s.now ≤ a + 3 * p.L ∧ s.pend = false ∧ s.known = true
  clean : s.lead = false → s.att.isSome = true → s.dirty = false
  progress : s.lead = false → dl p s ≤ s.since + bound p

theorem inv_init (p : Par) (t0 hb : Nat) (pend known : Bool) (hhb : hb ≤ t0) (hdue : t0 ≤ hb + p.H + p.L)
    (hp : pend = true → t0 ≤ hb + p.W) : Inv p (init t0 hb pend known) where
  hbLe := hhb
  hbDue := fun _ => hdue
  pendDue := fun _ => hp
  attOK := fun _ _ h => nomatch h
  clean := fun _ h => nomatch h
  progress := fun _ => by
    cases pend <;> cases known <;> simp only [dl, init, bound, if_true, if_false, Bool.false_eq_true] <;> omega

/-- Once the follower leads, only `hbLe` says anything. -/
theorem Inv.of_lead {p : Par} {s : St} (hl : s.lead = true) (h : s.lastHb ≤ s.now) : Inv p s := by
  refine ⟨h, ?_, ?_, ?_, ?_, ?_⟩ <;> intro h' <;> rw [hl] at h' <;> cases h'

/-- What no step touches: the start of eligibility; and once the follower leads, that it leads, the owner's last
    write, and the clock's direction. -/
theorem step_frame {p : Par} {s s' : St} {a : Act} (h : step p s a = some s') :
    s'.since = s.since ∧ (s.lead = true → s'.lead = true ∧ s'.lastHb = s.lastHb ∧ s.now ≤ s'.now) := by
  obtain ⟨now, since, lastHb, pend, known, att, dirty, lead⟩ := s
  cases a with
  | advance t | hbApply =>
    simp only [step, guards] at h
    obtain ⟨rfl, rfl⟩ | ⟨rfl, -, rfl⟩ := h
    · exact ⟨rfl, fun _ => ⟨rfl, rfl, by dsimp only; omega⟩⟩
    · exact ⟨rfl, fun hl => nomatch hl⟩
  | deliver =>
    cases att <;> simp only [step, guards] at h <;> obtain ⟨-, ⟨-, rfl⟩ | ⟨-, rfl⟩⟩ := h <;>
      exact ⟨rfl, fun hl => ⟨hl, rfl, Nat.le_refl _⟩⟩
  | attemptEnd =>
    cases att <;> simp only [step, guards] at h
    subst h
    exact ⟨rfl, fun hl => ⟨Bool.or_eq_true_iff.2 (.inl hl), rfl, Nat.le_refl _⟩⟩

theorem step_inv {p : Par} (hpar : p.W + 4 * p.L < p.H) {s s' : St} {a : Act} (inv : Inv p s) (h : step p s a = some s') : Inv p s' := by
  cases hl : s.lead
  case true =>
    obtain ⟨hl', hb, hn⟩ := (step_frame h).2 hl
    exact .of_lead hl' (hb ▸ Nat.le_trans inv.hbLe hn)
  obtain ⟨now, since, lastHb, pend, known, att, dirty, lead⟩ := s
  cases hl
  have hbLe : lastHb ≤ now := inv.hbLe
  have hbDue : now ≤ lastHb + p.H + p.L := inv.hbDue rfl
  have pendDue : pend = true → now ≤ lastHb + p.W := inv.pendDue rfl
  cases a with
  | advance t =>
    simp only [step, guards, if_false, canAdvance, Bool.and_eq_true, decide_eq_true_eq, Bool.or_eq_true, Bool.not_eq_true'] at h
    obtain ⟨⟨⟨⟨c1, c2⟩, c3⟩, c4⟩, rfl⟩ := h
    exact { hbLe := Nat.le_trans hbLe c1
            hbDue := fun _ => c2
            pendDue := fun _ hp => c3.resolve_left (ne_false_of_eq_true hp)
            attOK := fun _ a ha => by
              cases ha
              obtain ⟨a1, a2, a3, -, a5⟩ := inv.attOK rfl a rfl
              exact ⟨a1, a2, Nat.le_trans a3 c1, of_decide_eq_true c4, a5⟩
            clean := inv.clean
            progress := inv.progress }
  | hbApply =>
    simp only [step, guards, if_false] at h
    obtain ⟨hc, rfl⟩ := h
    -- no attempt can be running, and no notification pending: they would have ended before H - L
    cases att with
    | some a => have := inv.attOK rfl a rfl; dsimp only at this; omega
    | none =>
    cases pend with
    | true => have := pendDue rfl; omega
    | false =>
    exact { hbLe := Nat.le_refl _
            hbDue := fun _ => Nat.le_trans (Nat.le_add_right _ _) (Nat.le_add_right _ _)
            pendDue := fun _ _ => Nat.le_add_right _ _
            attOK := fun _ _ ha => nomatch ha
            clean := fun _ ha => nomatch ha
            progress := fun _ => by
              refine Nat.le_trans ?_ (inv.progress rfl)
              cases known <;> simp only [dl, if_true, if_false, Bool.false_eq_true] <;> omega }
  | deliver =>
    cases att with
    | some a =>
      simp only [step, guards] at h
      have := (inv.attOK rfl a rfl).2.2.2.2.1
      rw [h.1] at this; cases this
    | none =>
    simp only [step, guards] at h
    obtain ⟨rfl, ⟨rfl, rfl⟩ | ⟨rfl, rfl⟩⟩ := h
    · -- the first notification makes the owner known; `dl` is the same with it pending and with the second awaited
      exact { inv with
        pendDue := fun _ hp => nomatch hp
        attOK := fun _ _ ha => nomatch ha }
    · -- the second starts the attempt
      have := pendDue rfl
      exact { inv with
        pendDue := fun _ hp => nomatch hp
        attOK := fun _ a ha => by cases ha; exact ⟨hbLe, this, Nat.le_refl _, Nat.le_add_right _ _, rfl, rfl⟩
        clean := fun _ _ => rfl
        progress := fun _ => Nat.le_trans (by show now + 3 * p.L ≤ lastHb + p.W + 3 * p.L; omega) (inv.progress rfl) }
  | attemptEnd =>
    cases att <;> simp only [step, guards] at h
    subst h
    exact .of_lead (by rw [show dirty = false from inv.clean rfl rfl]; rfl) hbLe

theorem run_cons (p : Par) (s : St) (a : Act) (as : List Act) : run p s (a :: as) = (step p s a).bind (run p · as) := by
  rw [run]; cases step p s a <;> rfl

theorem run_inv {p : Par} (hpar : p.W + 4 * p.L < p.H) {s s' : St} (inv : Inv p s) (as : List Act) (h : run p s as = some s') : Inv p s' :=
  Fold.option_inv (fun _ => rfl) (run_cons p) (step_inv hpar) as inv h

/-- While the follower does not lead, the clock has not passed the deadline of the mechanism's current stage. -/
theorem now_le_dl {p : Par} {s : St} (inv : Inv p s) (hl : s.lead = false) : s.now ≤ dl p s := by
  obtain ⟨now, since, lastHb, pend, known, att, dirty, lead⟩ := s
  cases att with
  | some a => exact (inv.attOK hl a rfl).2.2.2.1
  | none =>
    have hbDue : now ≤ lastHb + p.H + p.L := inv.hbDue hl
    cases pend with
    | false => cases known <;> simp only [dl, if_true, if_false, Bool.false_eq_true] <;> omega
    | true =>
      have : now ≤ lastHb + p.W := inv.pendDue hl rfl
      cases known <;> simp only [dl, if_true, if_false, Bool.false_eq_true] <;> omega

end NLE.Prompt
