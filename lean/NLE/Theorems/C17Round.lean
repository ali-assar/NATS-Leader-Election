import NLE.Model.Round
import NLE.Theorems.C17
import NLE.Gen.Shape
/-!
# C17 (election round clause)

"Each acquisition round of an election waits a random 10–100 ms before its first attempt and makes
at most four attempts separated by that backoff."  The numbers in the statements are the
*documented* literals; the definitions use the constants regenerated from the source, so a changed
constant breaks these proofs.
-/
namespace NLE.Theorems.C17Round
open NLE NLE.Backoff NLE.Round

/-- The jitter before the first attempt lies in [10 ms, 100 ms] for every draw in [0,1). -/
theorem jitter_window (r0 : Rat) (h0 : 0 ≤ r0) (h1 : r0 < 1) :
    10000000 ≤ jitterOf r0 ∧ jitterOf r0 ≤ 100000000 := by
  have hw : (0 : Rat) ≤ (((Gen.jitterMax : Int) - (Gen.jitterMin : Int) : Int) : Rat) := by decide
  have hlo : (0 : Int) ≤ (r0 * _).floor := Rat.le_floor_iff.2 (Rat.mul_nonneg h0 hw)
  have hhi := Rat.floor_monotone (Rat.mul_le_mul_of_nonneg_right (Rat.le_of_lt h1) hw)
  rw [Rat.one_mul, Rat.floor_intCast] at hhi
  simp only [jitterOf, Gen.jitterMin, Gen.jitterMax] at *
  omega

/-- An attempt starts at `t`; the round goes on, one backoff later, iff that attempt failed and retries are left.
    Everything below about the instants of a round is read off this equation. -/
theorem attempts_cons (o : Bool) (rest : List Bool) (draws : List Rat) (k : Nat) (t : Int) :
    (runFrom (o :: rest) draws k t).attempts =
      t :: if o = false ∧ k < Gen.maxRetries
           then (runFrom rest draws.tail (k + 1) (t + backoff defaultCfg k (draws.headD 0))).attempts else [] := by
  rw [runFrom]
  cases o
  · by_cases h : k < Gen.maxRetries
    · simp [h, Nat.not_le.2 h]
    · simp [h, Nat.not_lt.1 h]
  · rfl

/-- At most four attempts per round, whatever the outcomes and draws. -/
theorem runFrom_attempts_le (outcomes : List Bool) (draws : List Rat) (k : Nat) (t : Int) (hk : k ≤ 3) :
    (runFrom outcomes draws k t).attempts.length + k ≤ 4 := by
  induction outcomes generalizing draws k t with
  | nil => simp [runFrom]; omega
  | cons o rest ih =>
    rw [attempts_cons]
    split
    · rename_i h
      have := ih draws.tail (k + 1) (t + backoff defaultCfg k (draws.headD 0)) (Nat.succ_le_of_lt h.2)
      simp only [List.length_cons]; omega
    · simp; omega

theorem at_most_four_attempts (r0 : Rat) (outcomes : List Bool) (draws : List Rat) :
    (run r0 outcomes draws).attempts.length ≤ 4 :=
  runFrom_attempts_le outcomes draws 0 (jitterOf r0) (by omega)

/-- The default backoff configuration (regenerated) is well-formed, so `C17.backoff_int_bounds` applies
    to every wait of a round. -/
theorem defaultCfg_wf : defaultCfg.WF := by
  unfold BackoffCfg.WF; decide +kernel

/-- The smallest value of each of the round's three backoffs (attempt numbers 0, 1, 2): 45, 90 and 180 ms. -/
theorem backoffLo_values :
    backoffLo defaultCfg 0 = 45000000 ∧ backoffLo defaultCfg 1 = 90000000 ∧ backoffLo defaultCfg 2 = 180000000 := by
  decide +kernel

/-- Every backoff of a round is at least 45 ms, whatever the draw. -/
theorem round_backoff_ge (k : Nat) (hk : k < 3) (r : Rat) (hr0 : 0 ≤ r) (hr1 : r < 1) :
    45000000 ≤ backoff defaultCfg k r := by
  have hb := (C17.backoff_int_bounds defaultCfg defaultCfg_wf k r hr0 hr1).2.1
  obtain ⟨h0, h1, h2⟩ := backoffLo_values
  have : k = 0 ∨ k = 1 ∨ k = 2 := by omega
  rcases this with rfl | rfl | rfl <;> omega

/-- Consecutive attempts are separated by exactly `CalculateBackoff(Default, retry)`: the second
    attempt of a round whose first attempt failed starts `backoff Default 0 r` after the first, and
    that wait lies within ±10 % of 50 ms. -/
theorem second_attempt_after_backoff (r0 r : Rat) (rest : List Bool) (ds : List Rat) (o2 : Bool)
    (hr0 : 0 ≤ r) (hr1 : r < 1) :
    let rr := run r0 (false :: o2 :: rest) (r :: ds)
    rr.attempts.head? = some (jitterOf r0) ∧
    (rr.attempts.drop 1).head? = some (jitterOf r0 + backoff defaultCfg 0 r) ∧
    45000000 ≤ backoff defaultCfg 0 r ∧ backoff defaultCfg 0 r ≤ 55000000 := by
  intro rr
  have hb := (C17.backoff_int_bounds defaultCfg defaultCfg_wf 0 r hr0 hr1).2.2
  have hhi : backoffHi defaultCfg 0 = 55000000 := by decide +kernel
  have ha : rr.attempts = jitterOf r0 :: (runFrom (o2 :: rest) ds 1 (jitterOf r0 + backoff defaultCfg 0 r)).attempts := by
    simp [rr, run, attempts_cons false, Gen.maxRetries]
  rw [ha, attempts_cons]
  exact ⟨rfl, rfl, round_backoff_ge 0 (by omega) r hr0 hr1, by omega⟩

/-- The attempts of a round (from loop counter `k`, time `t`) begin with `t` … -/
theorem runFrom_head (outcomes : List Bool) (draws : List Rat) (k : Nat) (t : Int) :
    (runFrom outcomes draws k t).attempts = [] ∨ (runFrom outcomes draws k t).attempts.head? = some t := by
  cases outcomes with
  | nil => exact .inl rfl
  | cons o rest => exact .inr (by rw [attempts_cons]; rfl)

/-- … and consecutive attempts are at least 45 ms apart (the draws are `rand.Float64()` values; a missing draw
    counts as 0).  This is the bound the trace clause `attempts-not-spaced` checks Create calls against. -/
theorem runFrom_spaced (outcomes : List Bool) (draws : List Rat) (k : Nat) (t : Int)
    (hd : ∀ r ∈ draws, 0 ≤ r ∧ r < 1) :
    List.Pairwise (fun a b => a + 45000000 ≤ b) (runFrom outcomes draws k t).attempts ∧
    ∀ a ∈ (runFrom outcomes draws k t).attempts, t ≤ a := by
  induction outcomes generalizing draws k t with
  | nil => simp [runFrom]
  | cons o rest ih =>
    rw [attempts_cons]
    split
    · rename_i h
      have hr : 0 ≤ draws.headD 0 ∧ draws.headD 0 < 1 := by
        cases draws with
        | nil => exact ⟨by decide, by decide⟩
        | cons r rs => simpa using hd r (by simp)
      have hge := round_backoff_ge k h.2 _ hr.1 hr.2
      have ⟨ih1, ih2⟩ := ih draws.tail (k + 1) (t + backoff defaultCfg k (draws.headD 0))
        (fun r hr' => hd r (List.mem_of_mem_tail hr'))
      simp only [List.pairwise_cons, List.mem_cons, forall_eq_or_imp]
      exact ⟨⟨fun b hb => by have := ih2 b hb; omega, ih1⟩, by omega, fun a ha => by have := ih2 a ha; omega⟩
    · simp

theorem attempts_spaced (r0 : Rat) (outcomes : List Bool) (draws : List Rat) (hd : ∀ r ∈ draws, 0 ≤ r ∧ r < 1) :
    List.Pairwise (fun a b => a + 45000000 ≤ b) (run r0 outcomes draws).attempts :=
  (runFrom_spaced outcomes draws 0 (jitterOf r0) hd).1

/-- Where the store log's Create calls come from (regenerated from the source on every run): the only function that
    issues a Create is `attemptAcquire`, with one call site, so an attempt is at most one Create; attempts are made by
    Start (one), by the round (`attemptAcquireWithRetry`, at most four: `at_most_four_attempts`) and by the watcher's
    takeover opportunity (one).  This is what the trace monitor's `more-creates-than-attempts` clause counts against. -/
theorem one_create_per_attempt :
    Gen.kvCreateCallers = ["kvElection.attemptAcquire"] ∧
    Gen.attemptAcquireCallers = ["kvElection.Start", "kvElection.attemptAcquireWithRetry", "kvElection.handleWatchEvent"] ∧
    Gen.attemptPriorityTakeoverCallers = ["kvElection.attemptAcquire"] :=
  ⟨rfl, rfl, rfl⟩

/-- What can make an instance issue Creates: `Start` (one attempt of its own), an acquisition round, a takeover
    opportunity seen by the watcher (one attempt). -/
inductive Spawn where
  | start
  | round (r0 : Rat) (outcomes : List Bool) (draws : List Rat)
  | opportunity

/-- Creates issued (one per attempt: `one_create_per_attempt`). -/
def Spawn.creates : Spawn → Nat
  | .start => 1
  | .round r0 o d => (run r0 o d).attempts.length
  | .opportunity => 1

/-- What the trace monitor books for it (`more-creates-than-attempts`). -/
def Spawn.credit : Spawn → Nat
  | .start => 1
  | .round .. => 4
  | .opportunity => 1

/-- Whatever an instance's rounds draw and however their attempts end, the Creates it issues never exceed what the
    monitor has booked: the clause cannot fail on code that follows the round model. -/
theorem creates_le_credit (ss : List Spawn) : (ss.map Spawn.creates).sum ≤ (ss.map Spawn.credit).sum := by
  induction ss with
  | nil => simp
  | cons s rest ih =>
    have h : s.creates ≤ s.credit := by
      cases s with
      | round r0 o d => exact at_most_four_attempts r0 o d
      | _ => exact Nat.le_refl _
    simp only [List.map_cons, List.sum_cons]; omega

/-- The bound is reached: a round whose four attempts all fail. -/
example : (Spawn.round 0 [false, false, false, false] []).creates = 4 := by
  simp [Spawn.creates, run, runFrom, Gen.maxRetries]

end NLE.Theorems.C17Round
