import NLE.Proofs.LifeInv
import NLE.Gen.Shape
/-!
# C08 — promotion and demotion callbacks mirror leadership exactly

Model: `NLE/Model/Life.lean`.  Callback *dispatch* is what the library decides (promotion inside
`becomeLeader`'s critical section, demotion by `stepDown` iff it cleared a flag, by a stop call iff the
instance led when the call began); callback *start* is what the trace shows.  The theorems hold for every
event sequence the model accepts.
-/
namespace NLE.Theorems.C08
open NLE NLE.Life

/-- Every instance of every reachable state satisfies the lifecycle invariant. -/
theorem reachable {evs : List TEv} {s : Sys} (h : run {} evs = .ok s) : ∀ x ∈ s.st.insts, LInv x :=
  run_inv sys_init evs h

/-- Callback bookkeeping in every reachable state (callbacks registered): promotions started or owed equal
    demotions started or owed plus one iff the flag is raised; at most one demotion is ever owed. -/
theorem callbacks_balance {x : Inst} (inv : LInv x) (hcb : x.callbacks = true) :
    x.promotes + o2n x.promoOwed = x.demotes + x.demoteOwed + x.stopDemoteOwed + b2n x.flag ∧
    x.demoteOwed + x.stopDemoteOwed + b2n x.flag ≤ 1 :=
  ⟨inv.balance hcb, inv.atMostOne⟩

/-- A promotion callback starts only when promotions and demotions are level, with the token of the term
    it was dispatched for; a demotion callback starts only when promotions lead by one.  Hence the two
    strictly alternate, starting with a promotion. -/
theorem promote_when_level {x x' : Inst} {tok cid : Nat} {dn : Bool} (inv : LInv x) (hcb : x.callbacks = true)
    (h : stepPromote x tok cid dn = .ok x') :
    x.promotes = x.demotes ∧ x.promoOwed = some tok ∧ x'.promotes = x.promotes + 1 ∧ x'.demotes = x.demotes := by
  obtain ⟨hp, -, rfl⟩ := stepPromote_ok h
  have hb := inv.balance hcb
  have ho := inv.owedTerm (by simp [hp])
  simp only [hp, o2n, Option.isSome_some, if_true] at hb
  exact ⟨by omega, hp, rfl, rfl⟩

theorem demote_when_ahead {x x' : Inst} (inv : LInv x) (hcb : x.callbacks = true) (h : stepDemote x = .ok x') :
    x.promotes = x.demotes + 1 ∧ x.flag = false ∧ x'.demotes = x.demotes + 1 ∧ x'.promotes = x.promotes := by
  obtain ⟨hf, hp, h⟩ := stepDemote_ok h
  have hb := inv.balance hcb
  have h1 := inv.atMostOne
  simp only [hf, hp, b2n, o2n, Option.isSome_none, Bool.false_eq_true, if_false] at hb h1
  rcases h with ⟨hd, rfl⟩ | ⟨-, hd, rfl⟩ <;> exact ⟨by omega, hf, rfl, rfl⟩

/-- Whenever the instance is not in the middle of a stop call, at a quiescent point (a `status` line the
    model accepts) it reports leadership exactly when promotions outnumber demotions by one. -/
theorem mirror_at_quiescent_points {x : Inst} (inv : LInv x) (hcb : x.callbacks = true)
    {st : Nat} {il il2 : Bool} {tok : Nat} (hok : statusOk x st il tok il2 = none) (hnostop : x.stops = []) :
    (il2 = true ↔ x.promotes = x.demotes + 1) ∧ (il2 = false ↔ x.promotes = x.demotes) := by
  obtain ⟨-, -, ⟨-, -, rfl⟩, -, ⟨hpo, hdo, hso⟩, -⟩ := statusOk_none hok
  have hb := inv.balance hcb
  simp only [hpo, hdo, hso hnostop, o2n, Option.isSome_none, Bool.false_eq_true, if_false] at hb
  cases hf : x.flag <;> simp [hf, b2n] at hb ⊢ <;> omega

/-- AST facts: `becomeFollower` is called only by `stepDown`, the initial acquisition and an exhausted round (both while
    not leading); `OnDemote` is invoked only by `stepDown`, `Stop` and `StopWithContext`; every demotion cause goes
    through `stepDown` (`Start`: the goroutine that steps down when the caller's context ends the run); a promotion is refused while the instance already leads. -/
theorem shape :
    Gen.becomeFollowerCallers = ["kvElection.Start", "kvElection.attemptAcquireWithRetry", "kvElection.stepDown"] ∧
    Gen.onDemoteCallers = ["kvElection.Stop", "kvElection.StopWithContext", "kvElection.stepDown"] ∧
    Gen.stepDownCallers = ["disconnectHandler.handleGracePeriodExpired", "kvElection.Start", "kvElection.handleHealthCheckFailure",
      "kvElection.handleHeartbeatFailure", "kvElection.handleReconnectVerificationFailed", "kvElection.handleValidationFailure",
      "kvElection.handleWatchEvent"] ∧
    Gen.becomeLeaderRefusesWhenLeading = true ∧ Gen.roundChecksLeader = true :=
  ⟨rfl, rfl, rfl, rfl, rfl⟩

/-- The order in which the two callbacks *start* (the promotion callback runs in its own goroutine): the promotion
    goroutine signals that it is about to call OnPromote, and whoever ends the term — `becomeFollower`, `Stop`,
    `StopWithContext` — waits for that signal inside the critical section that clears the flag, before any OnDemote
    can be invoked.  Together with the dispatch order proved above this makes the model's event order the order an
    observer sees under real parallelism (checked by the stress mode). -/
theorem callback_start_order_shape : Gen.promoteSignalsStart = true ∧ Gen.termEndAwaitsPromoteStart = true := by decide


end NLE.Theorems.C08
