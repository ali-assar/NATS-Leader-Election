import NLE.Proofs.LifeInv
import NLE.Gen.Shape
/-!
# C19 — the promotion context lives exactly as long as the term
-/
namespace NLE.Theorems.C19
open NLE NLE.Life

/-- A promotion context is cancelled only after its term has ended, its callback has returned, or the run itself is
    being ended (a stop call has begun and its critical section is about to lower the flag; the application has
    cancelled the context it passed to Start; the library has reported the term's duration, which it does inside the
    critical section that ends the term): while the instance still leads that term, with none of these under way,
    and the callback is running, a cancellation is not an execution of the model. -/
theorem not_cancelled_while_leading {x x' : Inst} {cid : Nat} (h : stepCtxDone x cid = .ok x') :
    ∃ c ∈ x.ctxs, c.cid = cid ∧
      (c.termOver = true ∨ c.cbRunning = false ∨ x.stopPendingTrans = true ∨ x.ctxCancelled = true ∨ x.ending = true) := by
  obtain ⟨⟨c, hc, hg⟩, -⟩ := stepCtxDone_ok h
  exact ⟨c, List.mem_of_find?_eq_some hc, by simpa using List.find?_some hc, hg⟩

/-- A context whose term is not over belongs to the term in progress: the flag is raised with that term's token. -/
theorem live_context_belongs_to_current_term {x : Inst} (inv : LInv x) (c : Ctx) (hc : c ∈ x.ctxs) (hl : c.termOver = false) :
    x.flag = true ∧ x.termTok = c.tok :=
  inv.ctxLive c hc hl

/-- When the flag is cleared — demotion for any reason, or a stop call — every promotion context of the instance
    belongs to an ended term (the model cancels with the term; the trace shows the cancellation at the next
    quiescent point, which `statusOk` requires). -/
theorem term_end_marks_contexts (x : Inst) : ∀ c ∈ (clearFlag x).ctxs, x.flag = true → c.termOver = true := by
  intro c hc hf
  simp only [clearFlag, hf, if_true, List.mem_map] at hc
  obtain ⟨c0, _, rfl⟩ := hc
  rfl

/-- At every quiescent point the model accepts, the contexts of ended terms are cancelled. -/
theorem cancelled_at_quiescent_points {x : Inst} {st : Nat} {il il2 : Bool} {tok : Nat}
    (hok : statusOk x st il tok il2 = none) : ∀ c ∈ x.ctxs, c.termOver = true → c.cancelled = true :=
  (statusOk_none hok).2.2.2.2.2

/-- AST facts: `becomeLeader` derives a per-term context, runs the term's loops and the promotion callback under it, and
    `becomeFollower` cancels it. -/
theorem shape : Gen.termContextPerTerm = true ∧ Gen.termCancelledOnDemotion = true := by decide


end NLE.Theorems.C19
