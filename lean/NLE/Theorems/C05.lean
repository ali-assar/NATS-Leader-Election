import NLE.Proofs.OwnTok
import NLE.Theorems.C01
import NLE.Gen.Shape
/-!
# C05 — fencing tokens are unique per leadership term and constant within it

Assumption A-uuid is built into the model: a `Create` / takeover call is accepted only with a token that
was never issued or written before, and an outside writer cannot publish a token an instance has
generated but not yet published.
-/
namespace NLE.Theorems.C05
open NLE NLE.Own

/-- Every successful acquisition (creation or preemption) publishes a fencing token that occurs in no
    earlier version of any record: in the newest-first history, for every split `pre ++ m :: post` with
    `m` an acquiring write, the token of `m` is not among the tokens of `post`. -/
theorem acquisition_token_fresh {evs : List TEv} {s : State} (h : run {} evs = .ok s)
    (pre post : List Mut) (m : Mut) (hsplit : s.hist = pre ++ m :: post) (hk : m.kind = .create ∨ m.kind = .takeover) :
    ∀ t ∈ afterToks m, t ∉ post.flatMap afterToks := by
  have hf := (reachable_tok h).fresh
  rw [hsplit] at hf
  clear hsplit
  induction pre with
  | nil => exact hf.2 hk
  | cons a pre ih => exact ih hf.1

/-- Every refresh republishes exactly the token and identity of the version it replaces. -/
theorem refresh_keeps_token {evs : List TEv} {s : State} (h : run {} evs = .ok s)
    (m : Mut) (hm : m ∈ s.hist) (hw : m.who ≠ 0) (hk : m.kind = .refresh) :
    ∃ old r tok p p', m.before = some old ∧ m.after = some r ∧ old.val = .own m.who tok p ∧ r.val = .own m.who tok p' := by
  obtain ⟨old, r, tok, p, p', hb, ha, _, _, hov, hrv⟩ := C01.refresh_same_token h m hm hw hk
  exact ⟨old, r, tok, p, p', hb, ha, hov, hrv⟩

/-- While an instance reports leadership, its token (what `Token()` returns and what the promotion
    callback received) is the token it published in a record it wrote itself, at the revision its next
    heartbeat presents. -/
theorem leader_token_is_own_records_token {evs : List TEv} {s : State} (h : run {} evs = .ok s)
    (i : Nat) (x : Inst) (tok : Nat) (hx : s.insts i = some x) (hl : x.lead = some tok) :
    OwnWrite s i x.cfg.key x.hbRev tok :=
  (reachable_inv h).leadOwn i x tok hx hl

/-- Non-vacuity: in the trace of `C01.f10Trace` two acquisitions happen (tokens 1 and 3). -/
example : (match run {} C01.f10Trace with
    | .ok s => s.hist.map (fun m => (m.kind, afterToks m))
    | .error _ => []) = [(.delete, []), (.takeover, [3]), (.create, [1])] := by decide +kernel

/-- AST facts: the token field is written only by `becomeLeader` (and the constructor); the takeover write publishes a
    new uuid; a promotion is refused while the instance already leads (no second token within a term); `Token()` — which the
    heartbeat reads, after its leadership re-check, to build the refresh — returns the stored token whatever the flag says. -/
theorem shape :
    Gen.tokenWriters = ["kvElection.becomeLeader", "newKVElection"] ∧ Gen.takeoverFreshToken = true ∧
    Gen.becomeLeaderRefusesWhenLeading = true ∧ Gen.tokenAccessorIsTheStoredToken = true :=
  ⟨rfl, rfl, rfl, rfl⟩

/-- … and the promotion callback is handed the token that `becomeLeader` was called with (captured when the term began,
    inside the critical section - not read from the field when the callback's goroutine gets to run, which may be after the
    term has ended and the next has begun). -/
theorem callback_token_is_the_terms : Gen.promoteSignalsStart = true := rfl

end NLE.Theorems.C05
