import NLE.Proofs.LeaseInv
import NLE.Proofs.OwnInv
import NLE.Theorems.C03
import NLE.Gen.Shape
/-!
# C02 — at most one leader at a time, and every claim is backed by the record

The theorems are about the timed model `NLE.Lease` of one group under the hypotheses of the property
(answers within H/2, no outside writer, no preemption).  Every fault-free implementation trace is replayed through
the acceptor `Lease.step`; a trace on which the store or an instance leaves the model (a Create applied over a live
record, a flag raised without an own applied Create or later than H/2 after it, a record of a claimant not refreshed
within 2·H, a Delete applied while claiming, an expiry before the TTL) is rejected, and reported as a correspondence
difference.  The token half of "backed" is `Own`'s invariant `leadOwn` (`claim_carries_own_token`).
-/
namespace NLE.Theorems.C02
open NLE NLE.Lease

/-- At every instant of every accepted execution, at most one instance claims leadership. -/
theorem at_most_one_leader {evs : List TEv} {s : State} (h : run {} evs = .ok s)
    (c d : Claim) (hc : c ∈ s.claims) (hd : d ∈ s.claims) : c.inst = d.inst := by
  obtain ⟨a, hrec, _⟩ := (reachable_inv h).backed d hd
  exact ((reachable_inv h).owner hrec hc).1

/-- Whenever an instance claims, the live record names it, and the record has not reached its TTL. -/
theorem claim_backed {evs : List TEv} {s : State} (h : run {} evs = .ok s) (c : Claim) (hc : c ∈ s.claims) :
    ∃ a, s.record = some (c.inst, a) ∧ s.now < a + s.ttl := by
  obtain ⟨a, h1, h2, h3, hpos, httl⟩ := (reachable_inv h).backed c hc
  exact ⟨a, h1, by omega⟩

/-- The record of a claimant cannot expire: an expiry event in an accepted execution finds no claimant. -/
theorem no_expiry_under_claim {evs : List TEv} {s s' : State} (h : run {} evs = .ok s) (he : expire s = .ok s') :
    s.claims = [] := by
  obtain ⟨o, a, hrec, hexp, -⟩ := expire_ok he
  exact (reachable_inv h).nil_of_expired hrec hexp

/-- A Create is applied only when nobody claims. -/
theorem no_create_under_claim {evs : List TEv} {s s' : State} {j : Nat} (h : run {} evs = .ok s)
    (hcr : applyCreate s j = .ok s') : s.claims = [] :=
  (reachable_inv h).nil_of_vacant (applyCreate_ok hcr).1

/-- The heartbeat schedule delivers the urgency the model assumes: the flag is raised within H/2 of the Create
    (`a0 ≤ t0 ≤ a0 + H/2`), the first refresh starts within one interval of that (`s1 ≤ t0 + H`) and is applied within
    H/2 of its start: within 2·H of the Create. -/
theorem first_refresh_in_time (H a0 t0 s1 a1 : Nat) (h2 : t0 ≤ a0 + H / 2) (h3 : s1 ≤ t0 + H)
    (h4 : a1 ≤ s1 + H / 2) : a1 ≤ a0 + 2 * H := by omega

/-- Between refreshes: the previous attempt started at `s0`, was applied at `a0 ≥ s0` and answered by `s0 + H/2`; the next
    one starts at `max finish (s0 + H)` at the latest (the loop's `Chain` of `Theorems/C03.lean`). -/
theorem next_refresh_in_time (H s0 a0 f0 s1 a1 : Nat) (h1 : s0 ≤ a0) (h2 : f0 ≤ s0 + H / 2)
    (h3 : s1 ≤ max f0 (s0 + H)) (h4 : a1 ≤ s1 + H / 2) : a1 ≤ a0 + 2 * H := by
  omega

/-- The same from the loop's schedule as stated for C03: consecutive attempts of a `Chain` whose first is answered
    within H/2. -/
theorem chain_refresh_in_time (H T : Nat) (a b : C03.Att) (h : C03.Chain H T [a, b]) (a0 a1 : Nat)
    (hap : a.start ≤ a0) (hresp : a.finish ≤ a.start + H / 2) (hb : a1 ≤ b.start + H / 2) :
    a1 ≤ a0 + 2 * H :=
  next_refresh_in_time H a.start a0 a.finish b.start a1 hap hresp h.next.1 hb

/-- The token half: an instance that reports leadership with token `tok` has itself written a record carrying `tok`
    at the revision its next heartbeat presents (`Own`'s invariant), and by `claim_backed` that record is the live one. -/
theorem claim_carries_own_token {evs : List TEv} {s : Own.State} (h : Own.run {} evs = .ok s)
    (i : Nat) (x : Own.Inst) (tok : Nat) (hx : s.insts i = some x) (hl : x.lead = some tok) :
    Own.OwnWrite s i x.cfg.key x.hbRev tok :=
  (Own.reachable_inv h).leadOwn i x tok hx hl

/-! Non-vacuity: an accepted run with a claimant. -/
def cfg : InstCfg := { id := 1, key := "g", prio := 1, takeover := false, hb := 1000, ttl := 3000, val := 0, grace := 0, maxFail := 0, hasHealth := false, connMon := false, storeTTL := 3000, callbacks := true }

def demo : List TEv := [
  ⟨0, .inst cfg⟩,
  ⟨0, .inst { cfg with id := 2 }⟩,
  ⟨10, .call 1 1 .create "g" 0 (.own 1 7 1)⟩,
  ⟨20, .apply 1 (.ok 1)⟩,
  ⟨30, .ret 1 (.ok 1 none)⟩,
  ⟨30, .flag 1 true true 7 1⟩,
  ⟨1030, .call 2 1 .update "g" 1 (.own 1 7 1)⟩,
  ⟨1040, .apply 2 (.ok 2)⟩,
  ⟨1050, .ret 2 (.ok 2 none)⟩ ]

example : (match run {} demo with | .ok s => s.claims.map (·.inst) == [1] && s.record == some (1, 1040) | .error _ => false) = true := by
  decide

/-- The model rejects a second claimant (the guard the implementation is checked against). -/
example : (match run {} (demo ++ [⟨1060, .flag 2 true true 9 2⟩]) with | .ok _ => false | .error _ => true) = true := by decide

/-- Every way a run ends lowers the flag (AST facts): the stop calls do it themselves (C09); when it is the caller's
    context that ends the run — the heartbeat loop exits, nobody refreshes the record — a goroutine of the run steps
    down, and `Start` refuses to begin a new run while that step-down is still under way, so a run never inherits
    a raised flag. -/
theorem run_end_shape : Gen.ctxCancelStepsDown = true ∧ Gen.startRefusedWhileLeading = true := by decide

end NLE.Theorems.C02
