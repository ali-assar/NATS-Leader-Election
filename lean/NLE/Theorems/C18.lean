import NLE.Proofs.LifeInv
import NLE.Gen.Shape
import NLE.Gen.Locks
/-!
# C18 — Status and metrics tell the truth (coherence, documented states, STOPPED after a stop, transition chain)

`status` lines are observations taken by the harness at quiescent points; the model accepts one only if it
shows the model's own state and flag.  The clauses about `LeaderID`, token and revision of a leader and about a
follower's convergence are evaluated by the monitors on every trace (`C18/leader-*`, `C18/follower-leaderid-not-converged`)
and by the ownership model (`Own`: the token of a claiming instance is its own record's token), not re-proved here.
-/
namespace NLE.Theorems.C18
open NLE NLE.Life

/-- An accepted status snapshot is self-consistent: IsLeader is true exactly when State is LEADER, the state is
    one of the documented values, and the is-leader gauge (the flag) equals both `Status().IsLeader` and `IsLeader()`. -/
theorem snapshot_coherent {x : Inst} (inv : LInv x) {st : Nat} {il il2 : Bool} {tok : Nat}
    (hok : statusOk x st il tok il2 = none) :
    (il = true ↔ st = 2) ∧ (st = 0 ∨ st = 1 ∨ st = 2 ∨ st = 3 ∨ st = 5) ∧ il = x.flag ∧ il2 = x.flag := by
  obtain ⟨hp, hs, ⟨rfl, rfl, rfl⟩, -⟩ := statusOk_none hok
  exact ⟨inv.coherent hp hs, inv.states, rfl, rfl⟩

/-- After a stop call (until the next Start) every accepted snapshot shows STOPPED and not leader. -/
theorem stopped_after_stop {x : Inst} (inv : LInv x) (hstop : x.everStopped = true) {st : Nat} {il il2 : Bool} {tok : Nat}
    (hok : statusOk x st il tok il2 = none) : st = 5 ∧ il = false ∧ il2 = false := by
  obtain ⟨hp, hs, ⟨rfl, rfl, rfl⟩, -⟩ := statusOk_none hok
  have ⟨h5, hf⟩ := inv.stopped hstop hs hp
  exact ⟨h5, hf, hf⟩

/-- The recorded transitions form a chain: each accepted transition starts from the state the previous one
    (or Start: CANDIDATE) left, and leads to a documented state. -/
theorem transition_chain {x x' : Inst} {f t : Nat} (h : stepTrans x f t = .ok x') :
    f = x.state ∧ x'.state = t ∧ (t = 2 ∨ t = 3 ∨ t = 5) := by
  obtain ⟨-, hf, ⟨rfl, -, -, rfl⟩ | ⟨rfl, -, -, -, rfl⟩ | ⟨rfl, -, rfl⟩ | ⟨rfl, -, rfl⟩⟩ := stepTrans_ok h
  · exact ⟨hf, rfl, .inl rfl⟩
  · exact ⟨hf, rfl, .inr (.inl rfl)⟩
  · exact ⟨hf, rfl, .inr (.inl rfl)⟩
  · exact ⟨hf, rfl, .inr (.inr rfl)⟩

/-- AST fact: `Status()` assembles its snapshot under the election's read lock; every transition writes the flag, the
    state, the token and the leader id inside one critical section under the write lock (C20's lock table), so a
    snapshot never mixes the two sides of a transition — also when it is taken while one is under way (checked by
    `snap` samples issued from inside the library's critical sections, clause `C18/snapshot-incoherent`). -/
theorem status_locked_shape : Gen.statusUnderReadLock = true := by decide

/-- … and every write to the fields a snapshot is made of — the flag, the state, the token, the leader id — outside the
    constructor is made with the election's mutex held exclusively (regenerated table: must-hold lockset at every
    `Store` / `Swap` / `CompareAndSwap`), by the functions that perform the transitions and by `observeLeader`. -/
theorem snapshot_fields_written_under_lock :
    Gen.atomicWrites.all (fun a => decide (a.2.2.1 = 2)) = true ∧
    (Gen.atomicWrites.map fun a => a.2.1).eraseDups =
      ["kvElection.Start", "kvElection.becomeLeader", "kvElection.becomeFollower", "kvElection.Stop",
       "kvElection.StopWithContext", "kvElection.observeLeader"] := by decide +kernel

end NLE.Theorems.C18
