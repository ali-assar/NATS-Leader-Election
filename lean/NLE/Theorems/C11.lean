import NLE.Model.Conn
import NLE.Theorems.C04
import NLE.Model.LockOrder
import NLE.Gen.Locks
/-!
# C11 — disconnect grace period: demote exactly when it elapses, verify on reconnect

Decision logic of `NLE/Model/Conn.lean` with the regenerated constants; the acceptor `Conn.step` ties it to
every trace: a demotion the model decides must show as a cleared flag at that very instant, the verification's
reads are followed read by read.  Absence of deadlock among the library's mutexes is the ranked lock order below
(`lock_order_ranked`, `no_mutex_deadlock`: regenerated table of every nested acquisition + the theorem of
`NLE/Model/LockOrder.lean`); crashes and waits that are not mutexes are left to the harness watchdog.
-/
namespace NLE.Theorems.C11
open NLE NLE.Conn

/-- The grace period is the configured one, or max(3 heartbeat intervals, 5 s) when it is 0. -/
theorem grace_doc (c : InstCfg) : grace c = if c.grace ≠ 0 then c.grace else max (3 * c.hb) 5000000000 := rfl

/-- While leading, a disconnect notification sets the timer and nothing else. -/
theorem onDisconnect_leading {x : Inst} (now : Nat) (hf : x.flag = true) :
    onDisconnect x now = { x with timerDue := some (now + grace x.cfg) } := if_pos hf

/-- A disconnect notification received while leading arms the timer for exactly now + G, replacing any earlier one. -/
theorem disconnect_arms (x : Inst) (now : Nat) (hf : x.flag = true) :
    (onDisconnect x now).timerDue = some (now + grace x.cfg) := by rw [onDisconnect_leading now hf]

/-- … and one received while not leading changes nothing. -/
theorem disconnect_not_leading (x : Inst) (now : Nat) (hf : x.flag = false) : onDisconnect x now = x :=
  if_neg (ne_true_of_eq_false hf)

/-- Flapping without reconnect: while leading, only the latest disconnect notification counts. -/
theorem foldl_onDisconnect {x : Inst} (hf : x.flag = true) (ds : List Nat) (d : Nat) :
    (ds ++ [d]).foldl onDisconnect x = { x with timerDue := some (d + grace x.cfg) } := by
  induction ds generalizing x with
  | nil => exact onDisconnect_leading d hf
  | cons a as ih =>
    rw [List.cons_append, List.foldl_cons, onDisconnect_leading a hf]
    exact ih (x := { x with timerDue := _ }) hf

/-- After any sequence of disconnect notifications received while leading (flapping without reconnect), the timer
    is due exactly G after the latest one: never earlier. -/
theorem due_after_latest_disconnect (x : Inst) (hf : x.flag = true) (ds : List Nat) (d : Nat) :
    ((ds ++ [d]).foldl onDisconnect x).timerDue = some (d + grace x.cfg) ∧
    ((ds ++ [d]).foldl onDisconnect x).flag = true ∧ ((ds ++ [d]).foldl onDisconnect x).cfg = x.cfg := by
  rw [foldl_onDisconnect hf]
  exact ⟨rfl, hf, rfl⟩

/-- A reconnect notification cancels the timer (no grace demotion) and, while leading, starts the verification
    after the regenerated 100 ms settle time. -/
theorem reconnect_cancels (x : Inst) (now : Nat) :
    (onReconnect x now).timerDue = none ∧
    (x.flag = true → (onReconnect x now).verify = some (.settle (now + 100000000))) :=
  ⟨rfl, fun hf => if_pos hf⟩

/-- With no demotion decided before, the timer decides one, for the instant `d`, exactly when it was due at `d ≤ t`
    and the instance still leads. -/
theorem fire_mustDemote_iff {x : Inst} (hnone : x.mustDemote = none) {t d : Nat} :
    (fire x t).mustDemote = some d ↔ x.timerDue = some d ∧ d ≤ t ∧ x.flag = true := by
  obtain ⟨cfg, flag, tok, timerDue, verify, mustDemote, readAt⟩ := x
  cases hnone
  cases timerDue with
  | none => simp [fire]
  | some d' =>
    by_cases hle : d' ≤ t
    · cases flag <;> simp [fire, onExpiry, hle]
      rintro rfl; exact hle
    · simp [fire, hle]; rintro rfl h; exact absurd h hle

/-- The grace mechanism decides to demote only when the timer fires, i.e. at its deadline `d` with `d ≤ t`, and it
    does so iff the instance still leads: never before G has elapsed, and exactly then. -/
theorem fire_spec (x : Inst) (t : Nat) (hnone : x.mustDemote = none) :
    ((fire x t).mustDemote = none ∨ ∃ d, x.timerDue = some d ∧ d ≤ t ∧ x.flag = true ∧ (fire x t).mustDemote = some d) ∧
    (∀ d, x.timerDue = some d → d ≤ t → x.flag = true → (fire x t).mustDemote = some d) :=
  ⟨(Option.eq_none_or_eq_some _).imp_right fun ⟨d, h⟩ =>
      have ⟨hd, hle, hf⟩ := (fire_mustDemote_iff hnone).1 h
      ⟨d, hd, hle, hf, h⟩,
   fun _ hd hle hf => (fire_mustDemote_iff hnone).2 ⟨hd, hle, hf⟩⟩

/-- After a reconnect the leader keeps leadership iff the verification's read shows its own identity and token:
    the verdict of the validation read is positive exactly when the record's JSON object carries a string `id`
    equal to the instance id and a string `token` equal to the instance's (non-empty) token. -/
theorem verify_verdict_iff (x : Inst) (tok : Nat) (r : Ret) :
    verifyVerdict x tok r = true ↔
      tok ≠ 0 ∧ ∃ rev v, r = .ok rev (some v) ∧ (mapViewOf v).ok = true ∧
        (mapViewOf v).token = .str tok ∧ (mapViewOf v).id = .str x.cfg.id := by
  unfold verifyVerdict
  cases r with
  | err k => simp
  | ok rev ov =>
    cases ov with
    | none => simp
    | some v =>
      rw [C04.validate_iff]
      constructor
      · rintro ⟨h1, _, _, w, hw, hok, ht, hi⟩
        cases hw
        exact ⟨h1, rev, v, rfl, hok, ht, hi⟩
      · rintro ⟨h1, rev', v', hr, hok, ht, hi⟩
        cases hr
        exact ⟨h1, rfl, rfl, _, rfl, hok, ht, hi⟩

/-- Non-vacuity: leader with the default grace period for H = 1 s, disconnect at t = 10 s: the timer is due at 15 s;
    at 14.9 s nothing is decided, at 15 s the model demotes. -/
def sampleCfg : InstCfg := { id := 1, key := "g", prio := 0, takeover := false, hb := 1000000000, ttl := 3000000000, val := 0,
                             grace := 0, maxFail := 0, hasHealth := false, connMon := true, storeTTL := 3000000000, callbacks := true }
example :
    let x := onDisconnect { cfg := sampleCfg, flag := true } 10000000000
    x.timerDue = some 15000000000 ∧ (fire x 14900000000).mustDemote = none ∧ (fire x 15000000000).mustDemote = some 15000000000 := by
  decide

/-! ## No deadlock among the library's mutexes -/

/-- Rank of the library's mutexes, by owning struct: the disconnect handler's first, then the election's, then the
    connection monitor's. -/
def muRank : String → Nat
  | "disconnectHandler" => 0
  | "kvElection" => 1
  | "natsConnectionMonitor" => 2
  | _ => 3

/-- Every mutex acquisition that the code can reach while another mutex of the library may be held (all paths, all call
    sites, deferred functions included; regenerated table) requests a strictly higher-ranked mutex — in particular no
    mutex is ever requested by a goroutine that may hold it. -/
theorem lock_order_ranked : Gen.lockOrder.all (fun e => decide (muRank e.1 < muRank e.2.1)) = true := by decide +kernel

/-- The nested acquisitions as they stand: the grace-timer handler reads the election's run context under its own mutex;
    `Start` wires the connection monitor under the election's mutex. -/
theorem lock_order_pairs :
    (Gen.lockOrder.map fun e => (e.1, e.2.1, e.2.2.1)) =
      [("disconnectHandler", "kvElection", "kvElection.runContext"),
       ("kvElection", "natsConnectionMonitor", "natsConnectionMonitor.OnDisconnect"),
       ("kvElection", "natsConnectionMonitor", "natsConnectionMonitor.OnReconnect"),
       ("kvElection", "natsConnectionMonitor", "natsConnectionMonitor.Start")] := by decide +kernel

/-- Hence no deadlock among these mutexes: in every snapshot of goroutines whose (held, requested) pairs all come from
    the table, nobody waits — directly or through others — for itself. -/
theorem no_mutex_deadlock (s : LockOrder.Snap) (name : Nat → String)
    (htable : ∀ g m, s.wants g = some m → ∀ h, h ∈ s.holds g → ∃ e ∈ Gen.lockOrder, e.1 = name h ∧ e.2.1 = name m) :
    ¬ ∃ g, LockOrder.Chain s g g := by
  apply LockOrder.no_deadlock (rank := fun m => muRank (name m))
  intro g m hw h hh
  obtain ⟨e, he, h1, h2⟩ := htable g m hw h hh
  have := List.all_eq_true.mp lock_order_ranked e he
  simp only [decide_eq_true_eq] at this
  rw [h1, h2] at this
  exact this

/-- The blocking waits that the code can reach while a mutex may be held (channel receives, selects without default,
    WaitGroup waits, store operations, sleeps, application callbacks): the wait for the promotion goroutine's start
    signal (which that goroutine gives before it takes any lock: C08 `callback_start_order_shape`) and the connection
    monitor's wait for its own (empty) wait group.  No store operation, sleep or application callback under a mutex. -/
theorem waits_under_lock :
    (Gen.lockWaits.map fun w => (w.1, w.2.1, w.2.2.1, w.2.2.2.1)) =
      [("chan", "e.promoteStarted", "kvElection", "kvElection.awaitPromoteStarted"),
       ("wg.Wait", "m.wg", "natsConnectionMonitor", "natsConnectionMonitor.Stop")] := by decide +kernel

end NLE.Theorems.C11
