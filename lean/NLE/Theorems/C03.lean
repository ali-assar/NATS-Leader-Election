import NLE.Model.HB
import NLE.Theorems.C15
import NLE.Proofs.Fold
/-!
# C03 — a deposed or cut-off leader stops claiming leadership within a bounded time

Decision logic and timing of the heartbeat loop (`NLE/Model/HB.lean`), with the failure limit, the time-out rule
and the error classification regenerated from the source.  The acceptor `HB.step` ties the schedule assumptions
(`Chain` below) and the decisions to every trace of the real code.

(a) A refresh that the store refuses (record replaced / deleted / expired: "wrong last sequence" or "key not found")
    is a permanent error: the loop demotes at the completion of that attempt, which is the first attempt that is
    applied after the change; it completes at most H + 2T after the change.
(b) Transport failures and time-outs are transient: the loop demotes at the completion of the third consecutive
    failed attempt; that is at most 3·max(T,H) + T after the start of the last successful refresh, which is within
    the documented 3H + 3T whenever T ≤ 3H — for H < 333 ms the documented bound does not hold (known finding F25,
    counterexample below).
-/
namespace NLE.Theorems.C03
open NLE NLE.HB

/-! ### Constants and classification (regenerated) -/

theorem constants : Gen.hbMaxFailures = 3 ∧ Gen.hbTimeoutDiv = 2 ∧ Gen.hbTimeoutFloor = 1000000000 := by decide

/-- The update time-out is max(H/2, 1 s). -/
theorem updateTimeout_doc (hb : Nat) : updateTimeout hb = max (hb / 2) 1000000000 := by
  simp [updateTimeout, Gen.hbTimeoutDiv, Gen.hbTimeoutFloor]

/-- What the store answers to a refresh of a record that was replaced, deleted or has expired is permanent;
    time-outs, no-responders and closed connections are transient; success is success. -/
theorem refused_refresh_is_permanent :
    outcomeOf (.err .wrongseq) = .permanent ∧ outcomeOf (.err .notfound) = .permanent := by
  have h : isPermanent (errOf .wrongseq) = true ∧ isPermanent (errOf .notfound) = true := C15.refused_refresh_permanent
  simp [outcomeOf, h]

/-- `HB.errOf` gives the loop exactly the client errors evaluated in `C15.vectors`. -/
theorem transport_failures_are_transient :
    outcomeOf (.err .timeout) = .transient ∧ outcomeOf (.err .noresponders) = .transient ∧
    outcomeOf (.err .closed) = .transient := by
  obtain ⟨h1, h2, h3⟩ := C15.nats_transport_not_permanent
  have h1 : isPermanent (errOf .timeout) = false := h1
  have h2 : isPermanent (errOf .noresponders) = false := h2
  have h3 : isPermanent (errOf .closed) = false := h3
  simp [outcomeOf, h1, h2, h3]

/-! ### Decisions -/

/-- A permanent error demotes at the completion of that very attempt, whatever the count. -/
theorem permanent_demotes_at_once (fails : Nat) : (onOutcome fails .permanent).2 = true := rfl

/-- A success resets the count and never demotes. -/
theorem success_resets (fails : Nat) : onOutcome fails .ok = (0, false) := rfl

/-- A transient failure demotes exactly when it is the third in a row. -/
theorem transient_demotes_at_third (fails : Nat) : (onOutcome fails .transient).2 = true ↔ fails + 1 ≥ 3 := by
  simp [onOutcome, Gen.hbMaxFailures]

/-- After a success, three transient failures in a row demote at the completion of the third and not before;
    with fewer the loop keeps claiming. -/
theorem three_in_a_row (idx : Nat) (rest : List Outcome) :
    refreshDemoteAt 0 idx (.ok :: .transient :: .transient :: .transient :: rest) = some (idx + 3) ∧
    refreshDemoteAt 0 idx [.ok, .transient, .transient] = none ∧
    refreshDemoteAt 0 idx [.transient, .transient, .ok, .transient, .transient] = none := by
  simp [refreshDemoteAt, onOutcome, Gen.hbMaxFailures]

/-- The count of consecutive failures the loop holds after a sequence of outcomes without a permanent one. -/
def failsAfter (f : Nat) : List Outcome → Nat
  | [] => f
  | o :: os => failsAfter (onOutcome f o).1 os

theorem failsAfter_snoc (pre : List Outcome) (o : Outcome) :
    ∀ f, failsAfter f (pre ++ [o]) = (onOutcome (failsAfter f pre) o).1 := by
  induction pre with
  | nil => intro f; rfl
  | cons p pre ih => intro f; exact ih _

theorem onOutcome_fires (fails : Nat) (o : Outcome) :
    (onOutcome fails o).2 = true ↔ some o = some .permanent ∨ (some o = some .transient ∧ fails + 1 ≥ 3) := by
  cases o <;> simp [onOutcome, Gen.hbMaxFailures]

/-- General form: the loop demotes at the first attempt that is a permanent failure or the third consecutive
    transient failure. -/
theorem demote_at_first (os : List Outcome) :
    ∀ (f idx : Nat), f < 3 → ∀ n,
      refreshDemoteAt f idx os = some n ↔
        ∃ k, n = idx + k ∧ k < os.length ∧
          (os[k]? = some .permanent ∨ (os[k]? = some .transient ∧ failsAfter f (os.take k) + 1 ≥ 3)) ∧
          ∀ k' < k, ¬ (os[k']? = some .permanent ∨ (os[k']? = some .transient ∧ failsAfter f (os.take k') + 1 ≥ 3)) :=
  fun f idx _ n => Fold.scan_eq_some (g := refreshDemoteAt) (S := failsAfter f)
    (P := fun pre o => o = some .permanent ∨ (o = some .transient ∧ failsAfter f pre + 1 ≥ 3))
    (fun _ _ => rfl) (fun _ _ _ _ => rfl) (fun pre o => failsAfter_snoc pre o f) (fun _ o => onOutcome_fires _ o) os [] idx n

/-! ### Timing -/

/-- A refresh attempt: when it was issued and when the loop had its outcome (answer or time-out). -/
structure Att where
  start : Nat
  finish : Nat

/-- What the ticker and the time-out guarantee about consecutive attempts of one term (checked on every trace by
    `HB.step`): an attempt completes within T; the next one is issued at the next tick, or — when the previous one
    outlasted it — immediately (the ticker buffers one tick). -/
def Chain (H T : Nat) : List Att → Prop
  | [] => True
  | [a] => a.start ≤ a.finish ∧ a.finish ≤ a.start + T
  | a :: b :: rest => a.start ≤ a.finish ∧ a.finish ≤ a.start + T ∧ b.start ≤ max a.finish (a.start + H) ∧ Chain H T (b :: rest)

/-! `Chain` read off: its first attempt, and the link to the second. -/

theorem Chain.head {H T : Nat} {a : Att} {l : List Att} (h : Chain H T (a :: l)) :
    a.start ≤ a.finish ∧ a.finish ≤ a.start + T := by
  cases l with
  | nil => exact h
  | cons b l => exact ⟨h.1, h.2.1⟩

theorem Chain.next {H T : Nat} {a b : Att} {l : List Att} (h : Chain H T (a :: b :: l)) :
    b.start ≤ max a.finish (a.start + H) ∧ Chain H T (b :: l) := h.2.2

/-- Each attempt starts within `max(T,H)` of the previous one. -/
theorem Chain.step {H T : Nat} {a b : Att} {l : List Att} (h : Chain H T (a :: b :: l)) :
    b.start ≤ a.start + max T H ∧ Chain H T (b :: l) := by
  have := h.head; have := h.next.1; exact ⟨by omega, h.next.2⟩

/-- The last of `n + 1` consecutive attempts completes within `n·max(T,H) + T` of the start of the first. -/
theorem Chain.last_le {H T : Nat} : ∀ {a : Att} {l : List Att}, Chain H T (a :: l) →
    ∀ z ∈ (a :: l).getLast?, z.finish ≤ a.start + l.length * max T H + T
  | a, [], h, z, hz => by cases hz; have := h.head; simp; omega
  | a, b :: l, h, z, hz => by
    have := Chain.last_le h.step.2 z (by simpa using hz)
    have := h.step.1
    simp only [List.length_cons, Nat.add_mul] at *
    omega

/-- (b) The third consecutive failed attempt completes at most 3·max(T,H) + T after the start of the last
    successful refresh. -/
theorem third_failure_bound (H T : Nat) (a0 a1 a2 a3 : Att) (h : Chain H T [a0, a1, a2, a3]) :
    a3.finish ≤ a0.start + 3 * max T H + T :=
  h.last_le a3 rfl

/-- … which is within the documented 3H + 3T whenever the time-out does not exceed three intervals. -/
theorem third_failure_bound_documented (H T : Nat) (hT : T ≤ 3 * H) (a0 a1 a2 a3 : Att) (h : Chain H T [a0, a1, a2, a3]) :
    a3.finish ≤ a0.start + 3 * H + 3 * T := by
  have := third_failure_bound H T a0 a1 a2 a3 h
  omega

/-- With the regenerated time-out rule the hypothesis `T ≤ 3H` is exactly `H ≥ 333 333 334 ns`. -/
theorem timeout_le_three_intervals (hb : Nat) (h : 333333334 ≤ hb) : updateTimeout hb ≤ 3 * hb := by
  rw [updateTimeout_doc]; omega

/-- Known finding F25: for H = 100 ms (T = 1 s) a schedule the model allows exceeds the documented bound:
    a refresh that takes 990 ms followed by three time-outs completes 3.99 s after its start; 3H + 3T = 3.3 s. -/
theorem documented_bound_fails_for_small_H :
    ∃ a0 a1 a2 a3 : Att, Chain 100000000 (updateTimeout 100000000) [a0, a1, a2, a3] ∧
      a3.finish > a0.start + 3 * 100000000 + 3 * updateTimeout 100000000 := by
  refine ⟨⟨0, 990000000⟩, ⟨990000000, 1990000000⟩, ⟨1990000000, 2990000000⟩, ⟨2990000000, 3990000000⟩, ?_, ?_⟩
  · simp [Chain, updateTimeout_doc]
  · simp [updateTimeout_doc]

/-- (a) The record changes at `c`.  If an attempt `a` was in flight (issued before the change), it may still
    succeed; the next attempt `b` is applied after the change, is refused (permanent) and the loop demotes at its
    completion, which is at most H + 2T after the change. -/
theorem next_attempt_after_change_bound (H T c : Nat) (a b : Att) (h : Chain H T [a, b]) (hin : a.start ≤ c) :
    b.finish ≤ c + H + 2 * T := by
  have := h.step.1; have := h.step.2.head; omega

/-- … and if no attempt is in flight at the change (the previous one, `a`, had completed before), the next
    attempt completes at most H + T after the change. -/
theorem next_attempt_after_change_bound_idle (H T c : Nat) (a b : Att) (h : Chain H T [a, b]) (hdone : a.finish ≤ c) :
    b.finish ≤ c + H + T := by
  have := h.head; have := h.next.1; have := h.next.2.head; omega

end NLE.Theorems.C03
