import NLE.Proofs.LifeInv
import NLE.Gen.Shape
import NLE.Theorems.C11
/-!
# C09 — Stop is final (lifecycle clauses)

Proved here, over the lifecycle model: once a stop call has begun, and until the next successful Start, the
instance is never promoted again and no promotion callback is dispatched; after the stop call's critical section it
reports STOPPED and not leader.  The clauses about store operations after the stop returned, return-time bounds
(5 s / time-out), the absence of panics, goroutine clean-up and DeleteKey are evaluated on every
trace by the monitors (`C09/store-op-after-stop`, `C09/leader-when-stop-returns`, `C09/record-survives-deletekey`,
`C09/goroutines-left`, harness watchdog) — see DESIGN.md §6 C09 for what is proved and what is validated.  That a stop
call cannot deadlock on the library's mutexes is the ranked lock order (`stop_no_mutex_deadlock`).
-/
namespace NLE.Theorems.C09
open NLE NLE.Life

/-- Outside a run no per-instance event raises the flag, begins a promotion or dispatches a promotion callback:
    a flag that is still raised (the stop call's critical section has not lowered it yet) can only come down. -/
theorem not_running_stays {x x' : Inst} {e : Ev} (hnr : x.running = false) (hnp : x.pendingFlag ≠ some true)
    (h : stepInst x e = .ok x') :
    (x'.flag = true → x.flag = true) ∧ x'.pendingFlag ≠ some true ∧ x'.running = false ∧
    (x'.promoOwed = x.promoOwed ∨ x'.promoOwed = none) := by
  have same : (x.flag = true → x.flag = true) ∧ x.pendingFlag ≠ some true ∧ x.running = false ∧
      (x.promoOwed = x.promoOwed ∨ x.promoOwed = none) := ⟨id, hnp, hnr, .inl rfl⟩
  unfold stepInst at h
  split at h
  · -- a promotion needs a run
    obtain ⟨-, -, ⟨-, hr, -⟩ | ⟨-, -, -, -, rfl⟩ | ⟨-, -, rfl⟩ | ⟨-, -, rfl⟩⟩ := stepTrans_ok h
    · rw [hnr] at hr; cases hr
    · exact same
    · exact ⟨id, nofun, hnr, .inl rfl⟩
    · exact ⟨id, nofun, hnr, .inl rfl⟩
  · -- the flag is raised only inside a promotion's critical section
    obtain ⟨-, ⟨-, hp, -⟩ | ⟨-, -, rfl⟩⟩ := stepFlag_ok h
    · exact absurd hp hnp
    · exact ⟨nofun, nofun, hnr, .inl rfl⟩
  · obtain ⟨-, -, rfl⟩ := stepPromote_ok h
    exact ⟨id, hnp, hnr, .inr rfl⟩
  · cases h; exact same
  · rw [(stepCtxDone_ok h).2]; exact same
  · obtain ⟨-, -, ⟨-, rfl⟩ | ⟨-, -, rfl⟩⟩ := stepDemote_ok h <;> exact same
  · cases h; exact same
  · split at h
    · cases h
    · cases h; exact same
  · cases h; exact same

/-- While the election is not running (a stop call has begun, no Start since) no event raises the flag or
    begins a promotion: the instance never again reports leadership and no promotion callback is dispatched. -/
theorem no_promotion_while_stopped {x x' : Inst} {e : Ev} (_inv : LInv x) (hnr : x.running = false) (hnf : x.flag = false)
    (hnp : x.pendingFlag ≠ some true) (h : stepInst x e = .ok x') :
    x'.flag = false ∧ x'.pendingFlag ≠ some true ∧ x'.running = false ∧ x'.promoOwed = x.promoOwed ∨
    x'.flag = false ∧ x'.pendingFlag ≠ some true ∧ x'.running = false ∧ x'.promoOwed = none := by
  obtain ⟨hf, hp, hr, ho⟩ := not_running_stays hnr hnp h
  have hf' : x'.flag = false := Bool.eq_false_iff.2 fun h => by rw [hnf] at hf; cases hf h
  exact ho.imp (⟨hf', hp, hr, ·⟩) (⟨hf', hp, hr, ·⟩)

/-- A stop call that proceeds makes the election not running, and (by `LifeInv`) after its critical section the
    state is STOPPED with the flag down until the next Start. -/
theorem stopped_state {x : Inst} (inv : LInv x) (hs : x.everStopped = true) (hp : x.pendingFlag = none)
    (hc : x.stopPendingTrans = false) : x.state = 5 ∧ x.flag = false ∧ x.running = false :=
  ⟨(inv.stopped hs hc hp).1, (inv.stopped hs hc hp).2, inv.stopNotRunning hs⟩

/-- AST facts: `becomeLeader` refuses when the election is stopped; `becomeFollower` keeps STOPPED after a stop;
    `StopWithContext` deletes only for an owner (or a record acquired while stopping); the only `go` statements not
    tracked by the WaitGroup are the stop calls' own helpers, the heartbeat's Update and the validation's Get
    sub-goroutines (which only finish an operation already in flight), the diagnostic read after a refused refresh
    (issued at the demotion, skipped when a stop call has already ended the term) and the adapters' forwarders. -/
theorem shape :
    Gen.becomeLeaderRefusesWhenStopped = true ∧ Gen.becomeFollowerKeepsStopped = true ∧
    Gen.deleteOnlyForOwnerOrAcquired = true ∧
    Gen.untrackedGo = ["MockWatcherAdapter.Updates", "StartEmbeddedNATSServer", "StartEmbeddedNATSServer", "kvElection.Stop",
      "kvElection.StopWithContext", "kvElection.StopWithContext", "kvElection.StopWithContext", "kvElection.StopWithContext",
      "kvElection.StopWithContext", "kvElection.heartbeatLoop", "kvElection.logTakeoverAfterRefusedRefresh", "kvElection.validateToken",
      "natsWatcherAdapter.Updates"] :=
  ⟨rfl, rfl, rfl, rfl⟩

/-! ### Time budget of the stop calls

`StopWithContext` runs its phases (wait for the background goroutines, key deletion, wait for OnDemote) under one
deadline: a phase that would pass the deadline is abandoned there.  `Stop` waits at most 5 s for the goroutines and
then runs OnDemote. -/

/-- Return time (relative to the call) of a stop call whose phases would take `ds`, with `el` already elapsed. -/
def stopReturn (budget : Nat) : List Nat → Nat → Nat
  | [], el => el
  | d :: ds, el => if el + d ≤ budget then stopReturn budget ds (el + d) else budget

/-- Whatever the phases take — a hung store, a callback that never returns — the call returns within its budget. -/
theorem stop_within_budget (budget : Nat) (ds : List Nat) (el : Nat) (h : el ≤ budget) : stopReturn budget ds el ≤ budget := by
  induction ds generalizing el with
  | nil => exact h
  | cons d ds ih =>
    simp only [stopReturn]
    split
    · rename_i hle; exact ih _ hle
    · exact Nat.le_refl _

/-- … and when every phase fits, at the sum of the phases (nothing is cut short). -/
theorem stop_returns_when_done (budget : Nat) (ds : List Nat) (el : Nat) (h : el + ds.sum ≤ budget) :
    stopReturn budget ds el = el + ds.sum := by
  induction ds generalizing el with
  | nil => simp [stopReturn]
  | cons d ds ih =>
    simp only [stopReturn, List.sum_cons] at h ⊢
    have h1 : el + d ≤ budget := by omega
    simp only [h1, if_true]
    rw [ih (el + d) (by omega)]
    omega

/-- A run never overlaps the wind-down of the previous one (regenerated fact): `Start` is refused while a stop call is in
    progress and while the goroutines of a run that a stop call gave up waiting for have not all returned — so the
    WaitGroup is never reused under a pending `Wait` (the data race the race detector reported once restarts ran in race
    mode), and store operations of an abandoned run cannot interleave with a new one. -/
theorem runs_do_not_overlap_shape : Gen.startRefusedWhileWindingDown = true := by decide

/-- The stop calls end the run atomically (regenerated fact): the context is cancelled, the flag lowered and STOPPED
    recorded inside one critical section, in that order — the model's single `api stop` step.  An acquisition whose
    answer arrives after that section finds the run over (`becomeLeaderRefusesWhenStopped`). -/
theorem stop_is_atomic_shape : Gen.stopCancelsInsideItsCriticalSection = true := by decide

/-- The source has that structure (regenerated facts): one deadline, every wait under it, the deletion issued from a
    goroutine; 5 s for `Stop` and as the default of `StopWithContext`. -/
theorem stop_budget_shape : Gen.stopWaitsShareDeadline = true ∧ Gen.stopDeleteAsync = true ∧
    Gen.stopWaitsFiveSeconds = true ∧ Gen.stopctxDefaultFiveSeconds = true := by decide

example : stopReturn 50 [40, 60, 10] 0 = 50 ∧ stopReturn 50 [10, 20, 5] 0 = 35 := by decide

/-- A stop call cannot be part of a deadlock among the library's mutexes (ranked lock order over the regenerated table of
    nested acquisitions, see C11), and the only things it waits for while holding one are the promotion goroutine's
    start signal and nothing else (`C11.waits_under_lock`). -/
theorem stop_no_mutex_deadlock (s : LockOrder.Snap) (name : Nat → String)
    (htable : ∀ g m, s.wants g = some m → ∀ h, h ∈ s.holds g → ∃ e ∈ Gen.lockOrder, e.1 = name h ∧ e.2.1 = name m) :
    ¬ ∃ g, LockOrder.Chain s g g := C11.no_mutex_deadlock s name htable

end NLE.Theorems.C09
