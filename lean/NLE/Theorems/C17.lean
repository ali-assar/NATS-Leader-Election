import NLE.Model.Backoff
/-!
# C17 — retry, backoff, jitter and circuit breaker keep their contracts

The arithmetic is exact (`Rat`); Go's float64 evaluation is compared with these bounds by the
correspondence check (rounding slack stated there), never proved.  The loop and the breaker are
exact state machines.  The election round's shape (jitter window, attempt count) is tied to the
regenerated constants in `NLE/Theorems/C17Round.lean`.
-/
namespace NLE.Theorems.C17
open NLE.Backoff

theorem base_nonneg (c : BackoffCfg) (h : c.WF) (n : Nat) : 0 ≤ base c n :=
  Std.le_min_iff.2 ⟨by exact_mod_cast h.2.1, Rat.mul_nonneg (by exact_mod_cast h.1) (Rat.pow_nonneg h.2.2.1)⟩

/-- `CalculateBackoff` lies within ±Jitter of `min(MaxBackoff, InitialBackoff × Multiplier^n)` and is
    never negative — for every attempt number and every draw `r ∈ [0,1)`. -/
theorem backoff_bounds (c : BackoffCfg) (h : c.WF) (n : Nat) (r : Rat) (hr0 : 0 ≤ r) (hr1 : r < 1) :
    base c n * (1 - c.jitter) ≤ backoffQ c n r ∧ backoffQ c n r ≤ base c n * (1 + c.jitter) ∧
    0 ≤ backoffQ c n r := by
  have hb := base_nonneg c h n
  obtain ⟨_, _, _, hj0, hj1⟩ := h
  -- the jitter term is `x * t` with `0 ≤ x ≤ base` and `-1 ≤ t ≤ 1`, so it lies in `[-x, x]`: the result is within
  -- `base ± x` and, as `x ≤ base`, the clamp at zero never changes it
  have hx : 0 ≤ base c n * c.jitter := Rat.mul_nonneg hb hj0
  have hxb : base c n * c.jitter ≤ base c n := by simpa using Rat.mul_le_mul_of_nonneg_left hj1 hb
  have hl := Rat.mul_le_mul_of_nonneg_left (show (-1 : Rat) ≤ r * 2 - 1 by grind) hx
  have hu := Rat.mul_le_mul_of_nonneg_left (show r * 2 - 1 ≤ (1 : Rat) by grind) hx
  unfold backoffQ
  simp only
  split <;> grind

/-- The truncated result is non-negative and within the integer envelope the check compares with. -/
theorem backoff_int_bounds (c : BackoffCfg) (h : c.WF) (n : Nat) (r : Rat) (hr0 : 0 ≤ r) (hr1 : r < 1) :
    0 ≤ backoff c n r ∧ backoffLo c n ≤ backoff c n r ∧ backoff c n r ≤ backoffHi c n := by
  obtain ⟨h1, h2, h3⟩ := backoff_bounds c h n r hr0 hr1
  exact ⟨Rat.le_floor_iff.2 (by simpa using h3), Rat.floor_monotone h1,
    Rat.intCast_le_intCast.1 (Rat.le_trans (Rat.floor_le _) (Rat.le_trans h2 Rat.le_ceil))⟩

/-- Non-vacuity: the default configuration is well-formed. -/
def defaultCfg : BackoffCfg := { init := 50000000, max := 5000000000, mult := 2, jitter := (1 : Rat) / 10 }
example : defaultCfg.WF := by
  unfold BackoffCfg.WF defaultCfg
  refine ⟨by decide, by decide, by grind, by grind, by grind⟩

/-! ### RetryWithBackoff -/

/-- A run of the loop keeps the invocations recorded so far and appends `news`: at most one per script element, at
    most `MaxAttempts - attempt` when there is a limit, and none at an instant at which the context is already
    cancelled.  Every exit but the recursive one appends either nothing or the invocation at `now`, which passed the
    check at the top of the iteration. -/
theorem retryLoop_calls (m : Int) (tc : Option Nat) (script : List (Outcome × Nat × Bool))
    (a now : Nat) (calls : List Nat) :
    ∃ news, (retryLoop m tc a now script calls).calls = calls.reverse ++ news ∧
      news.length ≤ script.length ∧ (0 < m → (a : Int) ≤ m - 1 → (news.length : Int) ≤ m - a) ∧
      ∀ t ∈ news, ¬ isCancelled tc t = true := by
  fun_induction retryLoop m tc a now script calls with
  | case1 | case2 | case3 => exact ⟨[], by simp; omega⟩
  | case9 a now o d tie rest calls h1 h2 h3 h4 h5 h6 h7 ih =>
    obtain ⟨news, he, hl, hm, hc⟩ := ih
    refine ⟨now :: news, by simp [he], by simp; omega, fun h0 ha => ?_, List.forall_mem_cons.2 ⟨h1, hc⟩⟩
    have := hm h0 (by omega)
    simp; omega
  | _ => exact ⟨[_], List.reverse_cons, by simp, fun _ _ => by simp; omega, by simp [*]⟩

/-- `RetryWithBackoff` invokes the operation at most `MaxAttempts` times (when positive). -/
theorem retry_calls_le_max (m : Int) (hm : 0 < m) (tc : Option Nat) (start : Nat)
    (script : List (Outcome × Nat × Bool)) :
    ((retry m tc start script).calls.length : Int) ≤ m := by
  obtain ⟨news, he, -, hl, -⟩ := retryLoop_calls m tc script 0 start []
  simpa [retry, he] using hl hm (by omega)

/-- `RetryWithBackoff` never invokes the operation at or after the instant its context is cancelled. -/
theorem retry_no_call_after_cancel (m : Int) (c start : Nat) (script : List (Outcome × Nat × Bool)) :
    ∀ t ∈ (retry m (some c) start script).calls, t < c := by
  obtain ⟨news, he, -, -, hc⟩ := retryLoop_calls m (some c) script 0 start []
  simpa [retry, he, isCancelled] using hc

/-- The loop stops at the first success, permanent error, breaker refusal or invocation that cancelled the context itself:
    whatever the script holds after that element is never used (no invocation "after success / a permanent error /
    cancellation"). -/
theorem retry_stops_on_final (m : Int) (tc : Option Nat) (pre post : List (Outcome × Nat × Bool))
    (x : Outcome × Nat × Bool) (hx : x.1 ≠ .trans) (a now : Nat) (calls : List Nat) :
      retryLoop m tc a now (pre ++ x :: post) calls = retryLoop m tc a now (pre ++ [x]) calls := by
  induction pre generalizing a now calls with
  | nil =>
    obtain ⟨o, d, tie⟩ := x
    cases o <;> simp [retryLoop] at hx ⊢
  | cons y rest ih =>
    -- the tail of the script occurs only in the recursive call
    obtain ⟨o, d, tie⟩ := y
    simp only [List.cons_append, retryLoop]
    rw [ih]

/-- An invocation that cancels the context itself is the last one, whatever backoff is drawn afterwards (a zero backoff
    makes the `select` a tie between the timer and `Done`: the check at the top of the loop then ends it). -/
theorem retry_cancelling_call_is_last (m : Int) (tc : Option Nat) (pre post : List (Outcome × Nat × Bool))
    (d : Nat) (tie : Bool) (a now : Nat) (calls : List Nat) :
      (retryLoop m tc a now (pre ++ (.transCancel, d, tie) :: post) calls).calls.length ≤ calls.length + pre.length + 1 := by
  rw [retry_stops_on_final m tc pre post (.transCancel, d, tie) (by simp)]
  obtain ⟨news, he, hl, -⟩ := retryLoop_calls m tc (pre ++ [(.transCancel, d, tie)]) a now calls
  simp [he] at hl ⊢
  omega

/-- A transient failure that meets neither the attempt limit nor the cancellation sends the loop round again, one
    backoff later. -/
theorem retryLoop_cons_trans {m : Int} {tc : Option Nat} {a now d : Nat} {tie : Bool}
    (hc : ¬ isCancelled tc now = true) (hm : ¬ (m > 0 ∧ (a : Int) ≥ m - 1)) (hw : ¬ cancelInWait tc now d tie = true)
    (rest : List (Outcome × Nat × Bool)) (calls : List Nat) :
    retryLoop m tc a now ((.trans, d, tie) :: rest) calls = retryLoop m tc (a + 1) (now + d) rest (now :: calls) := by
  simp [retryLoop, hc, hm, hw]

/-- Sum of the waits drawn in a script. -/
def waitSum : List (Outcome × Nat × Bool) → Nat
  | [] => 0
  | (_, d, _) :: r => d + waitSum r

/-- Consecutive invocations are separated by exactly the drawn backoffs: with transient outcomes in
    `pre`, no cancellation and no attempt limit, the final call happens at `start + Σ backoffs`, and
    the number of invocations is `|pre| + 1`. -/
theorem retry_waits_backoff (pre : List (Outcome × Nat × Bool)) (hpre : ∀ x ∈ pre, x.1 = .trans)
    (d : Nat) (tie : Bool) (a now : Nat) (calls : List Nat) :
      (retryLoop 0 none a now (pre ++ [(.ok, d, tie)]) calls).result = .ok ∧
      (retryLoop 0 none a now (pre ++ [(.ok, d, tie)]) calls).calls.getLast? = some (now + waitSum pre) ∧
      (retryLoop 0 none a now (pre ++ [(.ok, d, tie)]) calls).calls.length = calls.length + pre.length + 1 := by
  induction pre generalizing a now calls with
  | nil => simp [retryLoop, waitSum, isCancelled]
  | cons y rest ih =>
    obtain ⟨o, dy, ty⟩ := y
    obtain rfl : o = .trans := hpre _ (.head _)
    rw [List.cons_append, retryLoop_cons_trans (by simp [isCancelled]) (by simp) (by simp [cancelInWait])]
    obtain ⟨h1, h2, h3⟩ := ih (fun x hx => hpre x (.tail _ hx)) (a + 1) (now + dy) (now :: calls)
    exact ⟨h1, by rw [h2, waitSum, Nat.add_assoc], by rw [h3]; simp; omega⟩

/-! ### CircuitBreaker -/

section
variable {b : Breaker} {now : Int} (fin : Int)

theorem callD_refused (s : Bool) (ho : b.state = .opened) (hc : now - b.lastFailure < b.cooldown) :
    b.callD now fin s = (b, false) :=
  if_pos ⟨ho, hc⟩

theorem callD_success (h : ¬ (b.state = .opened ∧ now - b.lastFailure < b.cooldown)) :
    b.callD now fin true = ({ b with failures := 0, state := .closed }, true) := by
  rw [Breaker.callD, if_neg h]
  by_cases ho : b.state = .opened <;> simp [ho]

theorem callD_failure (h : ¬ (b.state = .opened ∧ now - b.lastFailure < b.cooldown)) :
    b.callD now fin false =
      ({ b with failures := b.failures + 1, lastFailure := fin,
                state := if b.threshold ≤ b.failures + 1 then .opened
                         else if b.state = .opened then .halfOpen else b.state }, true) := by
  rw [Breaker.callD, if_neg h]
  by_cases ho : b.state = .opened <;> simp [ho]

theorem call_failure_closed (t : Int) (hs : b.state = .closed) :
    b.call t false =
      ({ b with failures := b.failures + 1, lastFailure := t,
                state := if b.threshold ≤ b.failures + 1 then .opened else .closed }, true) := by
  rw [Breaker.call, callD_failure t (by simp [hs])]; simp [hs]

end

/-- While open and inside the cooldown the operation is never invoked and nothing changes. -/
theorem breaker_no_call_while_open (b : Breaker) (now : Int) (s : Bool)
    (ho : b.state = .opened) (hc : now - b.lastFailure < b.cooldown) :
    b.call now s = (b, false) :=
  callD_refused now s ho hc

/-- Any invocation that succeeds closes the breaker and resets the count. -/
theorem breaker_closes_on_success (b : Breaker) (now : Int)
    (h : ¬ (b.state = .opened ∧ now - b.lastFailure < b.cooldown)) :
    (b.call now true).2 = true ∧ (b.call now true).1.state = .closed ∧ (b.call now true).1.failures = 0 := by
  rw [Breaker.call, callD_success now h]; exact ⟨rfl, rfl, rfl⟩

/-- `k` consecutive failures applied to a breaker (times given by `ts`). -/
def failRun (b : Breaker) : List Int → Breaker
  | [] => b
  | t :: ts => failRun (b.call t false).1 ts

/-- Below the threshold the breaker stays closed, counts every failure, and keeps invoking. -/
theorem breaker_closed_below_threshold (b : Breaker) (ts : List Int)
    (hs : b.state = .closed) (hlt : b.failures + ts.length < b.threshold) :
    (failRun b ts).state = .closed ∧ (failRun b ts).failures = b.failures + ts.length ∧
    (failRun b ts).threshold = b.threshold := by
  induction ts generalizing b with
  | nil => exact ⟨hs, by simp [failRun], rfl⟩
  | cons t ts ih =>
    have hlt' : b.failures + 1 + ts.length < b.threshold := by simp at hlt; omega
    rw [failRun, call_failure_closed t hs, if_neg (show ¬ b.threshold ≤ b.failures + 1 by omega)]
    obtain ⟨i1, i2, i3⟩ := ih { b with failures := b.failures + 1, lastFailure := t, state := .closed } rfl hlt'
    exact ⟨i1, by rw [i2]; simp; omega, i3⟩

/-- It opens at exactly `failureThreshold` consecutive failures counted from a closed, reset breaker:
    still closed after `threshold - 1` of them, each of the `threshold` calls invoked the operation,
    and the `threshold`-th leaves it open. -/
theorem breaker_opens_at_threshold (th cd : Int) (ts : List Int) (t : Int)
    (hlen : (ts.length : Int) = th - 1) :
    let b0 : Breaker := { threshold := th, cooldown := cd }
    (failRun b0 ts).state = .closed ∧
    ((failRun b0 ts).call t false).2 = true ∧
    ((failRun b0 ts).call t false).1.state = .opened := by
  intro b0
  obtain ⟨hs, hf, hthr⟩ := breaker_closed_below_threshold b0 ts rfl (by simp [b0]; omega)
  rw [call_failure_closed t hs]
  exact ⟨hs, rfl, if_pos (by simp [hf, hthr, b0]; omega)⟩

/-- The cooldown runs from the moment the failing operation *returned*: after a failed invocation that lasted from `now`
    to `fin` and left the breaker open, every call entered less than a cooldown after `fin` is refused — however long the
    operation took. -/
theorem breaker_cooldown_from_completion (b : Breaker) (now fin now' fin' : Int) (s : Bool)
    (hopen : (b.callD now fin false).1.state = .opened) (hinv : (b.callD now fin false).2 = true)
    (hc : now' - fin < b.cooldown) :
    ((b.callD now fin false).1.callD now' fin' s).2 = false := by
  by_cases hg : b.state = .opened ∧ now - b.lastFailure < b.cooldown
  · rw [callD_refused fin false hg.1 hg.2] at hinv; cases hinv
  · rw [callD_failure fin hg] at hopen ⊢
    exact congrArg Prod.snd (callD_refused fin' s hopen hc)

/-- Non-vacuity / sanity: threshold 3, three failures at t = 1,2,3 open it; a call inside the cooldown
    is refused; after the cooldown a success closes it. -/
example :
    let b := failRun { threshold := 3, cooldown := 100 } [1, 2, 3]
    b.state = .opened ∧ (b.call 50 true).2 = false ∧ (b.call 103 true).2 = true ∧
    (b.call 103 true).1.state = .closed := by decide

/-- … and a slow failure: threshold 1, cooldown 400, an operation that runs from 0 to 400 and fails; a call at 500 is
    refused (100 after the failure), one at 800 goes through. -/
example :
    let b := ({ threshold := 1, cooldown := 400 } : Breaker).callD 0 400 false
    b.1.state = .opened ∧ (b.1.callD 500 500 true).2 = false ∧ (b.1.callD 800 800 true).2 = true := by decide

end NLE.Theorems.C17
