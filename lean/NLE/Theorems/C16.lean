import NLE.Model.Config
import NLE.Gen.ConfigRules
/-!
# C16 — configuration validation accepts exactly the documented configurations

The rule list `Gen.configRules` is regenerated from `leader/validation.go` on every run;
the theorems below are therefore re-checked against what the code says now.
-/
namespace NLE.Theorems.C16
open NLE.Config

/-- `validateConfig` names the first rule that fires. -/
theorem validate_eq_find (rules : List Rule) (c : Cfg) :
    validate rules c = (rules.find? (·.fires c)).map (·.field) := by
  induction rules with
  | nil => rfl
  | cons r rs ih => cases h : r.fires c <;> simp [validate, h, ih]

theorem validate_none {rules : List Rule} {c : Cfg} :
    validate rules c = none ↔ ∀ r ∈ rules, r.fires c = false := by
  simp [validate_eq_find]

theorem validate_some {rules : List Rule} {c : Cfg} {f : String} (h : validate rules c = some f) :
    ∃ r ∈ rules, r.fires c = true ∧ r.field = f := by
  simp only [validate_eq_find, Option.map_eq_some_iff] at h
  obtain ⟨r, hr, rfl⟩ := h
  exact ⟨r, List.mem_of_find?_eq_some hr, List.find?_some hr, rfl⟩

theorem wrap64_id {x : Int} (h1 : -9223372036854775808 ≤ x) (h2 : x ≤ 9223372036854775807) :
    wrap64 x = x := by
  unfold wrap64; omega

/-- In range the two products that the rules form are exact; that is all the rules need of `InRange`. -/
theorem nowrap {c : Cfg} (h : InRange c) : wrap64 (c.hb * 3) = c.hb * 3 ∧ wrap64 (c.hb * 2) = c.hb * 2 := by
  obtain ⟨h1, h2, -⟩ := h
  constructor <;> exact wrap64_id (by omega) (by omega)

/-- Main theorem: for every configuration whose durations are in range, `validateConfig`
    accepts exactly the documented configurations.  No rule fires iff every documented clause holds: the order of
    the rules plays no part. -/
theorem accepts_iff_documented (c : Cfg) (h : InRange c) :
    validate Gen.configRules c = none ↔ Documented c := by
  simp only [validate_none, Gen.configRules, List.forall_mem_cons, List.not_mem_nil, Rule.fires, Cond.eval, IExp.eval,
    Cfg.int, Cfg.str, Cfg.bool, List.all_cons, List.all_nil, Bool.and_true, Bool.true_and, nowrap h, Documented]
  grind

/-- Each rule, taken alone: when it fires, the field it names offends. -/
theorem fired_offends (c : Cfg) (h : InRange c) : ∀ r ∈ Gen.configRules, r.fires c = true → Offends c r.field := by
  simp only [Gen.configRules, List.forall_mem_cons, List.not_mem_nil, Rule.fires, Cond.eval, IExp.eval,
    Cfg.int, Cfg.str, Cfg.bool, List.all_cons, List.all_nil, Bool.and_true, Bool.true_and, nowrap h, Offends]
  grind

/-- When it rejects, the field it names really offends a documented rule. -/
theorem rejects_names_offender (c : Cfg) (h : InRange c) (f : String)
    (hv : validate Gen.configRules c = some f) : Offends c f := by
  obtain ⟨r, hr, hf, rfl⟩ := validate_some hv
  exact fired_offends c h r hr hf

/-- Validation happens before the store is contacted: the constructor's first statement is the
    `validateConfig` call and `NewElection` delegates straight to the constructor (facts regenerated
    from the AST). -/
theorem validates_before_anything_else :
    Gen.constructorValidatesFirst = true ∧ Gen.newElectionDelegates = true := by decide

/-- Non-vacuity: a documented, in-range configuration exists and is accepted. -/
def sampleCfg : Cfg :=
  { bucket := "b".toList, group := "g".toList, id := "A".toList, ttl := 3000000000, hb := 1000000000,
    val := 0, grace := 0, maxFail := 0, prio := 0, takeover := false }
example : InRange sampleCfg ∧ Documented sampleCfg ∧ validate Gen.configRules sampleCfg = none := by
  refine ⟨by unfold InRange sampleCfg; decide, by decide, by decide⟩

/-- Outside `InRange` the product `3 * HeartbeatInterval` wraps: a configuration with a
    heartbeat interval of 2^62 ns is accepted although TTL < 3·H (noted, not claimed). -/
example : validate Gen.configRules
    { sampleCfg with hb := 4611686018427387904, ttl := 4611686018427387904 } = none := by decide

end NLE.Theorems.C16
