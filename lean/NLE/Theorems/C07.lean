import NLE.Theorems.C02
import NLE.Theorems.C12
import NLE.Gen.Shape
/-!
# C07 — leadership is stable in fault-free operation

In the timed model `NLE.Lease` (answers within H/2, no outside writer, no preemption), once an instance claims:
its record stays the live one, keeps naming it, and the claim stands until the instance itself lowers its flag.
The mechanisms that lower the flag are those of `HB` (refresh failures, unhealthy checks), `Conn` (grace expiry, failed
verification), `Life` (stop) and the watcher seeing another owner; in fault-free operation none of them fires:
`no_refresh_demotion_without_failure`, `no_health_demotion_when_healthy`.  The implementation is held to that by the
acceptors on every fault-free trace, and by the trace monitor clause `C07/leader-demoted-fault-free`.
-/
namespace NLE.Theorems.C07
open NLE NLE.Lease

def lowers (e : TEv) (i : Nat) : Prop := ∃ b tok lid, e.ev = .flag i b false tok lid

/-- What happens to the list of claims is syntactic: only a lowered flag removes a claimant; a refresh and a raise
    replace its entry.  Neither the invariant nor `ended` matters. -/
theorem claimant_kept {s s' : State} {e : TEv} (h : step s e = .ok s') {c : Claim} (hc : c ∈ s.claims)
    (hl : ¬ lowers e c.inst) : ∃ c' ∈ s'.claims, c'.inst = c.inst := by
  rcases step_cases h with ⟨b, rfl⟩ | ⟨k, _, _, rfl⟩ | ⟨k, _, rfl⟩ | ⟨_, _, _, eff⟩
  iterate 3 exact ⟨c, hc, rfl⟩
  cases eff with
  | refresh => exact ⟨_, List.mem_map.mpr ⟨c, hc, rfl⟩, by split <;> rfl⟩
  | raise j =>
    by_cases hci : c.inst = j
    · exact ⟨_, List.mem_cons_self .., hci.symm⟩
    · exact ⟨c, List.mem_cons_of_mem _ (List.mem_filter.mpr ⟨hc, by simpa using hci⟩), rfl⟩
  | lower i hev =>
    exact ⟨c, List.mem_filter.mpr ⟨hc, by simpa using fun heq => hl ⟨_, _, _, heq ▸ hev⟩⟩, rfl⟩
  | _ => exact ⟨c, hc, rfl⟩

/-- One step of an accepted execution keeps every claim whose owner does not itself lower its flag; and the refreshed
    claimant keeps its identity. -/
theorem claim_survives_step {s s' : State} {e : TEv} (inv : LInv s) (h : step s e = .ok s') (hend : s.ended = false)
    (c : Claim) (hc : c ∈ s.claims) (hl : ¬ lowers e c.inst) : ∃ c' ∈ s'.claims, c'.inst = c.inst :=
  claimant_kept h hc hl

/-- While an instance claims, every step leaves a live record naming it: the record never lapses or changes owner. -/
theorem record_keeps_owner {evs : List TEv} {s s' : State} {e : TEv} (h : run {} evs = .ok s) (hs : step s e = .ok s')
    (hend : s.ended = false) (c : Claim) (hc : c ∈ s.claims) (hl : ¬ lowers e c.inst) :
    ∃ a', s'.record = some (c.inst, a') := by
  obtain ⟨c', hc', hi⟩ := claimant_kept hs hc hl
  obtain ⟨a', h1, _⟩ := (step_inv (reachable_inv h) hs).backed c' hc'
  exact ⟨a', hi ▸ h1⟩

/-- The refresh mechanism does not demote while every refresh succeeds. -/
theorem no_refresh_demotion_without_failure (os : List HB.Outcome) (hall : ∀ o ∈ os, o = .ok) (f idx : Nat) :
    HB.refreshDemoteAt f idx os = none := by
  induction os generalizing f idx with
  | nil => rfl
  | cons o os ih =>
    have := hall o (List.mem_cons_self ..)
    subst this
    simp only [HB.refreshDemoteAt, HB.onOutcome]
    exact ih (fun o ho => hall o (List.mem_cons_of_mem _ ho)) 0 (idx + 1)

/-- The health mechanism does not demote while every check is healthy. -/
theorem no_health_demotion_when_healthy (m : Nat) (rs : List Bool) (hall : ∀ r ∈ rs, r = true) (run idx : Nat) :
    HB.healthDemoteAt m run idx rs = none := by
  induction rs generalizing run idx with
  | nil => rfl
  | cons r rs ih =>
    have := hall r (List.mem_cons_self ..)
    subst this
    simp only [HB.healthDemoteAt, HB.onHealth]
    exact ih (fun r hr => hall r (List.mem_cons_of_mem _ hr)) 0 (idx + 1)

/-- The leader-side decision of the watcher (leader/watcher.go `handleWatchEvent`): step down iff the notified record
    names somebody else and is newer than the leader's own latest write. -/
def watcherStepsDown (self ownRev evId evRev : Nat) : Bool := evId != self && decide (evRev > ownRev)

/-- Late, duplicated or reordered notifications — any notification of a record version that is not newer than the
    leader's own latest write, whoever it names — never demote the leader; neither does any notification of its own
    record. -/
theorem stale_or_own_notification_ignored (self ownRev evId evRev : Nat) (h : evRev ≤ ownRev ∨ evId = self) :
    watcherStepsDown self ownRev evId evRev = false := by
  unfold watcherStepsDown
  rcases h with h | h
  · have : ¬ evRev > ownRev := by omega
    simp [this]
  · simp [h]

/-- That decision is the one in the source (regenerated fact), the follower-side observations are dropped while
    leading, and exhausted acquisition rounds and failed attempts leave a leader alone. -/
theorem watcher_shape : Gen.watcherComparesRevision = true ∧ Gen.observeLeaderGuarded = true ∧ Gen.roundChecksLeader = true := by decide

/-- A refresh answered `ok` is classified as a success. -/
theorem ok_answer_is_success (rev : Nat) (v : Option Val) : HB.outcomeOf (.ok rev v) = .ok := rfl

/-! Non-vacuity: the claimant of `C02.demo` survives a further refresh and a losing Create of another instance. -/
example : (match run {} (C02.demo ++ [⟨1500, .call 3 2 .create "g" 0 (.own 2 9 1)⟩, ⟨1510, .apply 3 (.fail .exists_)⟩,
      ⟨1520, .ret 3 (.err .exists_)⟩, ⟨2050, .call 4 1 .update "g" 2 (.own 1 7 1)⟩, ⟨2060, .apply 4 (.ok 3)⟩]) with
    | .ok s => s.claims.map (·.inst) == [1] && s.record == some (1, 2060) | .error _ => false) = true := by decide

end NLE.Theorems.C07
