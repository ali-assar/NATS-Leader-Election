import NLE.Model.Classify
import NLE.Gen.Patterns
/-!
# C15 — error classification is total, exclusive and faithful to the NATS client

`Gen.permanentSteps` / `Gen.transientSteps` are regenerated from `leader/error.go` on every
run.  The theorems down to `wrap_permanent` quantify over every error value of the algebra `Classify.Err`
(arbitrary texts, arbitrary nesting of `%w` wrapping and of the library's error types).  Those after it are about
the errors that the NATS client, the mock store and the library itself produce: families over the free part of the
text where there is one (the field, value and reason of a `ValidationError`, the sequence number of a conflict, the
duration of the heartbeat's time-out), closed values otherwise, and the closed values are evaluated.
-/
namespace NLE.Theorems.C15
open NLE NLE.Classify NLE.Text

/-- `IsPermanentError` -/
def isPermanent (e : Option Err) : Bool := classify (fun _ => false) Gen.permanentSteps e
/-- `IsTransientError` (its nested call of `IsPermanentError` is the function above). -/
def isTransient (e : Option Err) : Bool := classify (fun x => isPermanent (some x)) Gen.transientSteps e

/-- The chain of `e` contains a context error or a `TimeoutError`. -/
def ctxOrTimeout (e : Err) : Bool :=
  e.is "context.Canceled" || e.is "context.DeadlineExceeded" || e.asTimeout

/-- nil is neither permanent nor transient. -/
theorem nil_neither : isPermanent none = false ∧ isTransient none = false := by decide

/-- Exactly one: `IsTransientError` asks `IsPermanentError` first and answers `true` on every other path. -/
theorem exactly_one (e : Err) : isPermanent (some e) = !isTransient (some e) := by
  simp only [isTransient, classify, Gen.transientSteps, runSteps, ite_self]
  split <;> simp_all

/-- Never both. -/
theorem exclusive (e : Option Err) : ¬ (isPermanent e = true ∧ isTransient e = true) := by
  cases e with
  | none => decide
  | some e => simp [exactly_one]

/-- Every non-nil error is one of the two. -/
theorem total (e : Err) : isPermanent (some e) = true ∨ isTransient (some e) = true := by
  simp [exactly_one]

theorem transient_of_not_permanent {e : Err} (h : isPermanent (some e) = false) : isTransient (some e) = true := by
  simpa [exactly_one] using h

/-- Context cancellation, deadline expiry and `TimeoutError` are transient at any nesting depth of
    `%w` (and inside the library's own error types). -/
theorem ctx_timeout_transient (e : Err) (h : ctxOrTimeout e = true) :
    isPermanent (some e) = false ∧ isTransient (some e) = true := by
  have hp : isPermanent (some e) = false := by
    simp only [ctxOrTimeout, Bool.or_eq_true] at h
    simp only [isPermanent, classify, Gen.permanentSteps, runSteps]
    rcases h with (h | h) | h <;> simp [h]
  exact ⟨hp, transient_of_not_permanent hp⟩

/-- What makes an error permanent whose chain holds no context error / time-out: a text matching one of these two
    patterns, or one of these three sentinels anywhere in the chain. -/
theorem permanent_of (e : Err) (h0 : ctxOrTimeout e = false)
    (h : matchesCI e.text "wrong last sequence" = true ∨ matchesCI e.text "invalid" = true ∨
      e.is "ErrInvalidConfig" = true ∨ e.is "ErrPermissionDenied" = true ∨ e.is "ErrBucketNotFound" = true) :
    isPermanent (some e) = true := by
  simp only [ctxOrTimeout, Bool.or_eq_false_iff] at h0
  simp only [isPermanent, classify, Gen.permanentSteps, runSteps, h0, List.any_cons, List.any_nil]
  grind

/-- Configuration, permission and missing-bucket sentinels are permanent, also when wrapped, as long
    as the chain holds no context error / time-out (for chains holding both kinds the two "also when
    wrapped" clauses of the property contradict each other; the code lets the context error win). -/
theorem config_perm_bucket_permanent (e : Err) (h0 : ctxOrTimeout e = false)
    (h : e.is "ErrInvalidConfig" = true ∨ e.is "ErrPermissionDenied" = true ∨ e.is "ErrBucketNotFound" = true) :
    isPermanent (some e) = true :=
  permanent_of e h0 (.inr (.inr h))

/-- Steps whose positive verdict survives `%w` wrapping: no type test of the outermost value, and text patterns
    only with the answer `true` (the wrapped text matches at least what the inner one does). -/
def wrapSafe : Step → Bool
  | .topTimeout _ => false
  | .patterns _ r => r
  | _ => true

theorem ite_else_mono {c : Prop} [Decidable c] {r a b : Bool} (hab : a = true → b = true)
    (h : (if c then r else a) = true) : (if c then r else b) = true := by
  split <;> simp_all

theorem runSteps_wrap {steps : List Step} (hs : steps.all wrapSafe = true) (pre post : List Char) {e : Err}
    (h : runSteps (fun _ => false) steps e = true) :
    runSteps (fun _ => false) steps (.wrap pre post e) = true := by
  induction steps with
  | nil => exact h
  | cons s rest ih =>
    simp only [List.all_cons, Bool.and_eq_true] at hs
    specialize ih hs.2
    -- `errors.Is` and `errors.As` look through `%w`: on the wrapped value these steps test the same condition
    cases s with
    | topTimeout r => cases hs.1
    | patterns ps r =>
      obtain rfl : r = true := hs.1
      simp only [runSteps, Bool.if_true_left, Bool.or_eq_true, decide_eq_true_eq, List.any_eq_true] at h ⊢
      exact h.imp (fun ⟨p, hp, hm⟩ => ⟨p, hp, matchesCI_append_left pre (matchesCI_append_right post hm)⟩) ih
    | nilRet _ => exact ih h
    | final _ => exact h
    | callPermanent _ => exact ite_else_mono ih h
    | isTarget t r => exact ite_else_mono ih h
    | asTimeout r => exact ite_else_mono ih h

/-- "Also when wrapped with `%w`", for every permanent error however it is recognised. -/
theorem wrap_permanent (pre post : List Char) {e : Err} (h : isPermanent (some e) = true) :
    isPermanent (some (.wrap pre post e)) = true :=
  runSteps_wrap (by decide) pre post h

/-- Closed facts about literals are evaluated on their characters: the kernel reads a literal as `String.ofList [..]`,
    so `toList_ofList` yields them at once, where evaluating `String.toList` would decode the UTF-8 bytes one by one. -/
theorem invalidCfg_matches : matchesCI kInvalidCfg "invalid" = true := by
  unfold matchesCI kInvalidCfg
  repeat rw [String.toList_ofList]
  decide +kernel

theorem wrongLastSequence_matches : matchesCI "wrong last sequence: ".toList "wrong last sequence" = true := by
  unfold matchesCI
  repeat rw [String.toList_ofList]
  decide +kernel

/-- A `ValidationError` (what the constructor returns for a bad configuration) is permanent. -/
theorem validation_error_permanent (f r : List Char) (v : Option (List Char)) : isPermanent (some (.validation0 f v r)) = true :=
  permanent_of _ rfl (.inr (.inl (matchesCI_append_right _ invalidCfg_matches)))

/-- The error nats.go returns for a failed revision-checked `Update` (API error 10071,
    "nats: wrong last sequence: N"), for every N. -/
theorem nats_update_conflict_permanent (n : List Char) :
    isPermanent (some (.api 10071 ("wrong last sequence: ".toList ++ n))) = true :=
  permanent_of _ (by simp [ctxOrTimeout, Err.is, Err.asTimeout])
    (.inl (matchesCI_append_left kNats (matchesCI_append_right n wrongLastSequence_matches)))

/-- The error nats.go returns for `Create` on an existing key:
    `fmt.Errorf("%w: %s", apiErr, "key exists")`, for every N. -/
theorem nats_create_exists_permanent (n : List Char) :
    isPermanent (some (.wrap [] ": key exists".toList (.api 10071 ("wrong last sequence: ".toList ++ n)))) = true :=
  wrap_permanent _ _ (nats_update_conflict_permanent n)

/-- The closed test vectors, bare, in one evaluation: what the classifier answers for the client's transport errors,
    for its key-not-found error, for the mock store's and reference text of a revision conflict, and for the client's
    permission errors, missing-bucket error and key-exists sentinel.  Nearly all of the work is decoding the string
    literals of `Gen.permanentSteps`, which the kernel does once per declaration: hence one declaration. -/
theorem vectors :
    (isPermanent (some (.leaf "nats: timeout".toList ["nats.ErrTimeout"])) = false ∧
      isPermanent (some (.leaf "nats: no responders available for request".toList ["nats.ErrNoResponders"])) = false ∧
      isPermanent (some (.leaf "nats: connection closed".toList ["nats.ErrConnectionClosed"])) = false) ∧
    isPermanent (some (.leaf "nats: key not found".toList ["nats.ErrKeyNotFound"])) = true ∧
    isPermanent (some (.leaf "revision mismatch".toList [])) = true ∧
    isPermanent (some (.leaf "nats: permissions violation".toList [])) = true ∧
    isPermanent (some (.leaf "nats: authorization violation".toList [])) = true ∧
    isPermanent (some (.leaf "nats: authentication expired".toList [])) = true ∧
    isPermanent (some (.leaf "nats: authentication revoked".toList [])) = true ∧
    isPermanent (some (.leaf "nats: bucket not found".toList [])) = true ∧
    isPermanent (some (.leaf "nats: key exists".toList ["nats.ErrKeyExists"])) = true := by
  repeat rw [String.toList_ofList]
  decide +kernel

/-- The mock store's and reference texts for the same conflict. -/
theorem revision_mismatch_permanent :
    isPermanent (some (.leaf "revision mismatch".toList [])) = true := vectors.2.2.1

/-- What the classifier answers for the client's transport errors (`HB.errOf` feeds exactly these values to it: C03
    reads them here). -/
theorem nats_transport_not_permanent :
    isPermanent (some (.leaf "nats: timeout".toList ["nats.ErrTimeout"])) = false ∧
    isPermanent (some (.leaf "nats: no responders available for request".toList ["nats.ErrNoResponders"])) = false ∧
    isPermanent (some (.leaf "nats: connection closed".toList ["nats.ErrConnectionClosed"])) = false := vectors.1

/-- What the store answers to a refresh of a record that was replaced (the update conflict with N = 0) or that was
    deleted or has expired; again the values of `HB.errOf`, for C03. -/
theorem refused_refresh_permanent :
    isPermanent (some (.api 10071 "wrong last sequence: 0".toList)) = true ∧
    isPermanent (some (.leaf "nats: key not found".toList ["nats.ErrKeyNotFound"])) = true := by
  refine ⟨?_, vectors.2.1⟩
  have h := nats_update_conflict_permanent "0".toList
  repeat rw [String.toList_ofList] at h ⊢
  exact h

/-- nats.go's time-out, no-responders and connection-closed errors are transient. -/
theorem nats_transient :
    isTransient (some (.leaf "nats: timeout".toList ["nats.ErrTimeout"])) = true ∧
    isTransient (some (.leaf "nats: no responders available for request".toList ["nats.ErrNoResponders"])) = true ∧
    isTransient (some (.leaf "nats: connection closed".toList ["nats.ErrConnectionClosed"])) = true :=
  have h := nats_transport_not_permanent
  ⟨transient_of_not_permanent h.1, transient_of_not_permanent h.2.1, transient_of_not_permanent h.2.2⟩

/-- The client's permission errors, its missing-bucket error and its key-exists sentinel are permanent, bare and
    wrapped with `%w` (texts as in nats.go). -/
theorem nats_permission_bucket_exists_permanent :
    isPermanent (some (.leaf "nats: permissions violation".toList [])) = true ∧
    isPermanent (some (.leaf "nats: authorization violation".toList [])) = true ∧
    isPermanent (some (.leaf "nats: authentication expired".toList [])) = true ∧
    isPermanent (some (.leaf "nats: authentication revoked".toList [])) = true ∧
    isPermanent (some (.leaf "nats: bucket not found".toList [])) = true ∧
    isPermanent (some (.leaf "nats: key exists".toList ["nats.ErrKeyExists"])) = true ∧
    isPermanent (some (.wrap "kv: ".toList [] (.leaf "nats: permissions violation".toList []))) = true ∧
    isPermanent (some (.wrap "create: ".toList [] (.leaf "nats: key exists".toList ["nats.ErrKeyExists"]))) = true :=
  have ⟨_, _, _, h1, h2, h3, h4, h5, h6⟩ := vectors
  ⟨h1, h2, h3, h4, h5, h6, wrap_permanent _ _ h1, wrap_permanent _ _ h6⟩

/-- The heartbeat's own time-out error (what `heartbeatLoop` builds) is transient. -/
theorem heartbeat_timeout_transient (d : List Char) :
    isTransient (some (.timeout0 "heartbeat update".toList d)) = true :=
  (ctx_timeout_transient _ rfl).2

/-- Non-vacuity: a deeply wrapped `TimeoutError` whose text contains a permanent pattern satisfies
    the hypothesis of `ctx_timeout_transient` (this is the input that the pinned tree got wrong). -/
example : ctxOrTimeout (.wrap "ctx: ".toList [] (.timeout1 "op".toList "1s".toList (.leaf "key not found".toList []))) = true := by
  decide
example : ctxOrTimeout (.wrap "x: ".toList [] (.leaf "invalid config".toList ["ErrInvalidConfig"])) = false ∧
    Err.is "ErrInvalidConfig" (.wrap "x: ".toList [] (.leaf "invalid config".toList ["ErrInvalidConfig"])) = true := by decide +kernel

end NLE.Theorems.C15
