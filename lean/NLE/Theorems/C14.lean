import NLE.Model.World
import NLE.Gen.Shape
/-!
# C14 — the store contract the election relies on

`World.storeAnswer` / `World.mutate` are the store model against which (a) the reference store of the harness is
compared on every trace of every scenario and (b), through the reference store, the library's real adapter on an
embedded nats-server (harness mode `nats`: Create / Update with latest, stale and bogus revisions / Get / Delete /
expiry / Watch, arbitrary values; results, error classes, revisions and the watcher's event sequence must coincide).
The laws below are proved for the model; the coincidence clause of the property is that differential.

The model follows JetStream KV: an `Update` must present the subject's last sequence — the live record's revision,
else the delete marker's, else 0; expiry (MaxAge) removes a value without consuming a sequence number.
-/
namespace NLE.Theorems.C14
open NLE NLE.World

theorem lookup_filter_ne {α} (l : List (String × α)) (k k' : String) :
    (l.filter (fun x => decide (x.1 ≠ k))).lookup k' = if k' = k then none else l.lookup k' := by
  induction l with
  | nil => simp
  | cons x xs ih => grind

/-- What a key holds after `setKey`. -/
theorem live_setKey (w : World) (k : String) (r : Option Rec) (k' : String) :
    (w.setKey k r).live k' = if k' = k then r else w.live k' := by
  cases r <;> simp only [setKey, live, List.lookup_cons, lookup_filter_ne]
  grind

/-- What `mutate` does to the live values: the mutated key holds the new value (if any), stamped with the new sequence
    number, the writer and the time; every other key is untouched. -/
theorem live_mutate (w : World) (who : Nat) (kind : MutKind) (key : String) (exp : Nat) (nv : Option Val) (k' : String) :
    (w.mutate who kind key exp nv).live k' =
      if k' = key then
        nv.map fun v => { val := v, rev := if kind = .expire then w.seq else w.seq + 1, writer := who, wt := w.now }
      else w.live k' :=
  live_setKey ..

/-- Every mutation but expiry takes the next sequence number. -/
theorem seq_mutate (w : World) (who : Nat) (kind : MutKind) (key : String) (exp : Nat) (nv : Option Val) :
    (w.mutate who kind key exp nv).seq = if kind = .expire then w.seq else w.seq + 1 :=
  rfl

def mkOp (kind : OpKind) (key : String) (exp : Nat) (val : Val) : PendingOp :=
  { id := 0, inst := 0, kind := kind, key := key, exp := exp, val := val, issued := 0 }

/-- Create succeeds exactly when the key has no live value — also after deletion or expiry (both leave no live
    value) — and then returns the next sequence number. -/
theorem create_ok_iff (w : World) (key : String) (v : Val) :
    (w.storeAnswer (mkOp .create key 0 v) = .ok (w.seq + 1) ↔ w.live key = none) ∧
    (w.storeAnswer (mkOp .create key 0 v) = .fail .exists_ ↔ (w.live key).isSome) := by
  unfold storeAnswer mkOp
  cases w.live key <;> simp

/-- The sequence an Update must present. -/
def lastSeq (w : World) (key : String) : Nat :=
  match w.live key with
  | some r => r.rev
  | none => (w.tombs.lookup key).getD 0

theorem storeAnswer_update (w : World) (key : String) (exp : Nat) (v : Val) :
    w.storeAnswer (mkOp .update key exp v) = if lastSeq w key = exp then .ok (w.seq + 1) else .fail .wrongseq :=
  rfl

/-- Update succeeds exactly when the given revision is the key's latest sequence; for a live record that is its
    revision. -/
theorem update_ok_iff (w : World) (key : String) (exp : Nat) (v : Val) :
    (w.storeAnswer (mkOp .update key exp v) = .ok (w.seq + 1) ↔ exp = lastSeq w key) ∧
    (w.storeAnswer (mkOp .update key exp v) = .fail .wrongseq ↔ exp ≠ lastSeq w key) := by
  rw [storeAnswer_update]
  by_cases h : exp = lastSeq w key <;> simp [h, Ne.symm]

theorem update_live_ok_iff (w : World) (key : String) (exp : Nat) (v : Val) (r : Rec) (h : w.live key = some r) :
    w.storeAnswer (mkOp .update key exp v) = .ok (w.seq + 1) ↔ exp = r.rev := by
  rw [(update_ok_iff w key exp v).1, lastSeq, h]

/-- Get returns the latest live value (its revision), or "not found" when there is none. -/
theorem get_latest (w : World) (key : String) :
    (∀ r, w.live key = some r → w.storeAnswer (mkOp .get key 0 .empty) = .ok r.rev) ∧
    (w.live key = none → w.storeAnswer (mkOp .get key 0 .empty) = .fail .notfound) :=
  ⟨fun r h => by simp [storeAnswer, mkOp, h], fun h => by simp [storeAnswer, mkOp, h]⟩

/-- A successful write makes the written value the live one at the next sequence number; revisions strictly
    increase with every change of any key (expiry consumes none). -/
theorem write_effect (w : World) (who : Nat) (key : String) (exp : Nat) (v : Val) (kind : MutKind)
    (hk : kind = .create ∨ kind = .update ∨ kind = .extPut) :
    (w.mutate who kind key exp (some v)).live key = some { val := v, rev := w.seq + 1, writer := who, wt := w.now } ∧
    (w.mutate who kind key exp (some v)).seq = w.seq + 1 ∧
    (∀ k', k' ≠ key → (w.mutate who kind key exp (some v)).live k' = w.live k') := by
  have hne : kind ≠ .expire := by rcases hk with rfl | rfl | rfl <;> decide
  exact ⟨by simp [live_mutate, hne], by simp [seq_mutate, hne], fun k' hk' => by simp [live_mutate, hk']⟩

/-- Deletion leaves no live value and records the delete marker's sequence; expiry leaves no live value and
    consumes no sequence number. -/
theorem delete_effect (w : World) (who : Nat) (key : String) :
    (w.mutate who .delete key 0 none).live key = none ∧ (w.mutate who .delete key 0 none).seq = w.seq + 1 ∧
    (w.mutate who .delete key 0 none).tombs.lookup key = some (w.seq + 1) :=
  ⟨by simp [live_mutate], rfl, List.lookup_cons_self⟩

theorem expire_effect (w : World) (key : String) :
    (w.mutate 0 .expire key 0 none).live key = none ∧ (w.mutate 0 .expire key 0 none).seq = w.seq :=
  ⟨by simp [live_mutate], rfl⟩

/-- The change log only grows, newest first: a subscriber that remembers the length of the log at subscription
    finds exactly the later changes, in order, above that mark. -/
theorem history_grows (w : World) (who : Nat) (kind : MutKind) (key : String) (exp : Nat) (v : Option Val) :
    ∃ m, (w.mutate who kind key exp v).hist = m :: w.hist ∧ m.key = key ∧ m.kind = kind := by
  unfold mutate; exact ⟨_, rfl, rfl, rfl⟩

/-- The library's adapter creates its update channel and forwarding goroutine once per watcher (AST fact). -/
theorem adapter_updates_once : Gen.adapterUpdatesOnce = true := by decide

end NLE.Theorems.C14
