import NLE.Model.HB
import NLE.Proofs.Fold
import NLE.Gen.Shape
/-!
# C12 — health-based demotion happens at exactly the configured failure count

`HB.onHealth` / `HB.healthDemoteAt` are the decision logic of the heartbeat loop's health branch, with the
default threshold and the check deadline regenerated from the source.  The counter is per term: the acceptor
starts every term with `run = 0` (the code resets `healthFailureCount` in `becomeLeader`).
-/
namespace NLE.Theorems.C12
open NLE NLE.HB

/-- The default threshold is 3 and each check gets a context that expires within 100 ms (regenerated constants). -/
theorem constants : Gen.healthDefaultThreshold = 3 ∧ Gen.healthTimeout = 100000000 := by decide

theorem threshold_default : healthThreshold 0 = 3 := by decide
theorem threshold_set (m : Nat) (h : m ≠ 0) : healthThreshold m = m := if_neg h

/-- Number of consecutive unhealthy results at the end of a sequence (declaratively). -/
def trailingUnhealthy (l : List Bool) : Nat := (l.reverse.takeWhile (· == false)).length

/-- One check: a healthy result restarts the count, an unhealthy one adds to it; the loop demotes exactly when the
    new count reaches the threshold. -/
theorem onHealth_fst (m run : Nat) (r : Bool) : (onHealth m run r).1 = if r then 0 else run + 1 := by
  cases r <;> rfl

theorem onHealth_snd (m run : Nat) (r : Bool) : (onHealth m run r).2 = true ↔ r = false ∧ run + 1 ≥ m := by
  unfold onHealth; cases r <;> simp

/-- It is the loop's counter: a healthy result restarts it, an unhealthy one adds to it. -/
theorem trailingUnhealthy_snoc (pre : List Bool) (r : Bool) :
    trailingUnhealthy (pre ++ [r]) = if r then 0 else trailingUnhealthy pre + 1 := by
  cases r <;> simp [trailingUnhealthy]

/-- **C12.** With threshold `m ≥ 1`, for every sequence of results of one term: the health mechanism demotes at
    tick `n` exactly when `n` is the first tick at which the last `m` (or more) consecutive results are unhealthy —
    never after fewer, and any healthy result in between restarts the count. -/
theorem health_demotion_exact (m : Nat) (hm : 0 < m) (rs : List Bool) (n : Nat) :
    healthDemoteAt m 0 0 rs = some n ↔
      n < rs.length ∧ trailingUnhealthy (rs.take (n + 1)) ≥ m ∧ ∀ n' < n, trailingUnhealthy (rs.take (n' + 1)) < m := by
  have := Fold.scan_eq_some (g := healthDemoteAt m) (f := onHealth m) (S := trailingUnhealthy)
    (P := fun pre o => trailingUnhealthy (pre ++ o.toList) ≥ m) (fun _ _ => rfl) (fun _ _ _ _ => rfl)
    (fun pre r => by rw [trailingUnhealthy_snoc, onHealth_fst])
    (fun pre r => by rw [onHealth_snd, show (some r).toList = [r] from rfl, trailingUnhealthy_snoc]; cases r <;> simp; omega)
    rs [] 0 n
  simpa [← List.take_add_one, Nat.not_le, show trailingUnhealthy [] = 0 from rfl] using this

/-- Non-vacuity / sanity: threshold 3, results U U H U U U H: demotion at index 5 and not before. -/
example : healthDemoteAt 3 0 0 [false, false, true, false, false, false, true] = some 5 := by decide
example : healthDemoteAt (healthThreshold 0) 0 0 [false, false, false] = some 2 := by decide
example : healthDemoteAt 1 0 0 [true, false] = some 1 := by decide

/-- AST fact: `becomeLeader` resets the health failure count (the count is per term). -/
theorem shape : Gen.healthCountResetPerTerm = true := by decide


end NLE.Theorems.C12
