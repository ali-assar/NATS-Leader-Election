import NLE.Model.Validate
/-!
# C04 — fencing-token validation is sound and fail-safe (decision logic)

These are the table theorems about the verdict.  The history part of the property ("at some
moment during the call the record was live and contained …") is `NLE/Theorems/C04Sys.lean`.
-/
namespace NLE.Theorems.C04
open NLE.Validate

/-- The verdict is `true` exactly when: a non-empty local token, the context not done, the read
    returned an entry whose JSON object has a string `token` equal to the local token and a string
    `id` equal to the caller's instance id. -/
theorem validate_iff (c : Call) :
    validateToken c = true ↔
      c.localTok ≠ 0 ∧ c.ctxDoneAtEntry = false ∧ c.ctxWins = false ∧
      ∃ v, c.get = .entry v ∧ v.ok = true ∧ v.token = .str c.localTok ∧ v.id = .str c.me := by
  obtain ⟨tok, me, d, w, get⟩ := c
  unfold validateToken
  -- on each shape of the read the chain of tests computes; only an entry with two string fields passes any
  cases get with
  | err | nilEntry => simp
  | entry v =>
    obtain ⟨ok, token, id⟩ := v
    cases token with
    | str t => cases id <;> simp
    | _ => simp

/-- Fail-safe: each of the listed situations alone forces `false`. -/
theorem failsafe (c : Call)
    (h : c.localTok = 0 ∨ c.ctxDoneAtEntry = true ∨ c.ctxWins = true ∨ c.get = .err ∨ c.get = .nilEntry ∨
      (∃ v, c.get = .entry v ∧ (v.ok = false ∨ v.token ≠ .str c.localTok ∨ v.id ≠ .str c.me))) :
    validateToken c = false := by
  cases hv : validateToken c with
  | false => rfl
  | true =>
    obtain ⟨h1, h2, h3, v, hg, hok, ht, hi⟩ := (validate_iff c).mp hv
    rcases h with h | h | h | h | h | ⟨w, hw, h⟩
    · exact absurd h h1
    · simp [h2] at h
    · simp [h3] at h
    · simp [hg] at h
    · simp [hg] at h
    · rw [hg] at hw; cases hw
      rcases h with h | h | h
      · simp [hok] at h
      · exact absurd ht h
      · exact absurd hi h

/-- `ValidateToken` is `false` whenever the instance does not claim leadership at the call. -/
theorem api_not_leader (c : Call) : validateTokenAPI false c = false := by simp [validateTokenAPI]

theorem api_leader (c : Call) : validateTokenAPI true c = validateToken c := by simp [validateTokenAPI]

/-- `ValidateTokenOrDemote` returns the same verdict, and enters the demotion path exactly when the
    verdict is negative and the instance (still) claims leadership. -/
theorem orDemote_same_verdict (l : Bool) (c : Call) (l2 : Bool) :
    (validateOrDemote l c l2).1 = validateTokenAPI l c ∧
    ((validateOrDemote l c l2).2 = true ↔ (validateTokenAPI l c = false ∧ l2 = true)) := by
  simp [validateOrDemote]

/-- Non-vacuity: a call that validates. -/
example : validateToken ⟨7, 1, false, false, .entry ⟨true, .str 7, .str 1⟩⟩ = true := by decide

end NLE.Theorems.C04
