import NLE.Proofs.VacInv
import NLE.Model.Cand
import NLE.Gen.Shape
/-!
# C06 — a vacancy is filled within a bounded time while a healthy candidate exists

The theorems are about the timed model `NLE.Vac` of one healthy candidate (periodic check every 500 ms, acquisition
round with at most 100 ms jitter, operations applied and answered within `L`; all three constants regenerated from the
source).  The model has no watch notification at all: the bound rests on the periodic check alone.  The implementation
is held to the model by the acceptor `NLE.Cand` on every fault-free trace with a promised latency bound (a periodic
check that is overdue, a Create that does not follow a miss within the maximum jitter, an operation slower than
promised, a check on a vacant key that returns a record: rejected), and the end-to-end bound is evaluated on
every trace, including those with transient faults, by the monitor clause `C06/vacancy-not-filled`.
-/
namespace NLE.Theorems.C06
open NLE NLE.Vac

/-- The constants of the mechanism as they stand in the source. -/
theorem constants : Gen.checkInterval = 500000000 ∧ Gen.jitterMin = 10000000 ∧ Gen.jitterMax = 100000000 := by decide

/-- The bound: one periodic-check interval (500 ms) + the maximum acquisition jitter (100 ms) + operation latencies:
    four of them, six when the instance may also attempt takeovers (a running attempt is then up to three operations long). -/
theorem bound_documented (L : Nat) : bound (Par.ofLat L false) = 500000000 + 100000000 + 4 * L ∧
    bound (Par.ofLat L true) = 500000000 + 100000000 + 6 * L := by
  simp [bound, Par.ofLat, constants.1, constants.2.2]; omega

/-- Main theorem: in every execution of a healthy candidate — whatever the interleaving of its periodic checks, its
    acquisition rounds, other instances' writes, deletions and expiries, and with no watch notification at all — the key
    is never vacant for longer than the bound (counted from the later of: the vacancy's beginning, the moment the
    candidate became a healthy follower).  A vacancy ends only by an applied write: the candidate's own Create (it is
    then the owner, and claims on the acknowledgement, ≤ L later) or somebody else's. -/
theorem vacancy_filled_within_bound (p : Par) (t0 : Nat) (vacant0 : Bool) (acts : List Act) (s : St)
    (h : run p (init t0 vacant0) acts = some s) (v : Nat) (hv : s.vacant = some v) : s.now ≤ v + bound p :=
  vacancy_young (run_inv (inv_init p t0 vacant0) acts h) v hv

/-- Candidates never give up: in every reachable state the check mechanism has a pending deadline — a check in
    flight that must be answered, or the next check that must be issued within P + L of the previous one. -/
theorem check_always_due (p : Par) (t0 : Nat) (vacant0 : Bool) (acts : List Act) (s : St)
    (h : run p (init t0 vacant0) acts = some s) : s.now ≤ chkDue p s :=
  (run_inv (inv_init p t0 vacant0) acts h).chkOK.le_due

/-- A check that reads no record is always followed by a Create within the maximum jitter: the obligation stays until
    a Create of the candidate discharges it, and the clock cannot pass its deadline. -/
theorem miss_is_followed_by_create (p : Par) (t0 : Nat) (vacant0 : Bool) (acts : List Act) (s : St)
    (h : run p (init t0 vacant0) acts = some s) (r : Nat) (hr : r ∈ s.owed) : s.now ≤ r + p.J + p.B :=
  ((run_inv (inv_init p t0 vacant0) acts h).owedLe r hr).2

/-- Leaderless time after the owner crashes or is cut off at `x`: its record was last refreshed at `a ≤ x` and expires
    at `a + TTL` at the latest; the vacancy is filled within the bound and the new owner claims on the acknowledgement. -/
theorem leaderless_bound (x a ttl e v fillAt claimAt B L : Nat) (ha : a ≤ x) (he : e ≤ a + ttl) (hv : v = e)
    (hfill : fillAt ≤ v + B) (hclaim : claimAt ≤ fillAt + L) : claimAt ≤ x + ttl + B + L := by omega

/-! Non-vacuity: a run that takes the whole bound (P = 500, J = 100, L = 10; times in ms for readability). -/
def p0 : Par := { P := 500, Jmin := 10, J := 100, L := 10, B := 10 }

def worst : List Act := [
  .advance 1000, .checkCall, .checkApply, .vacate,           -- the check at 1000 still reads the record; it disappears right after
  .advance 1010, .checkRet false,
  .advance 1510, .checkCall, .advance 1520, .checkApply, .checkRet true,   -- next check: P + L later, applied late
  .advance 1630, .createCall, .advance 1640 ]                -- maximum jitter, a running attempt in the way, slow Create

example : (match run p0 (init 500 false) worst with
    | some s => s.vacant == some 1000 && s.now == 1640 && decide (s.now = 1000 + bound p0) | none => false) = true := by decide

example : (match run p0 (init 500 false) (worst ++ [.createApply 1630]) with
    | some s => s.vacant == none | none => false) = true := by decide

/-- The clock cannot pass the deadline: the model refuses. -/
example : run p0 (init 500 false) (worst ++ [.advance 1641]) = none := by decide

/-- The acceptor rejects a follower that stops checking. -/
def cfgA : InstCfg := { id := 1, key := "g", prio := 0, takeover := false, hb := 200000000, ttl := 600000000, val := 0, grace := 0, maxFail := 0, hasHealth := false, connMon := false, storeTTL := 600000000, callbacks := true }

def lazyFollower : List TEv := [
  ⟨0, .inst cfgA⟩, ⟨0, .hyp true true true true false 10000000 0⟩,
  ⟨5, .api 1 1 .start⟩, ⟨5, .apiRet 1 1 .ok⟩,
  ⟨6, .extPut "g" 1 (.own 9 9 0)⟩,
  ⟨20000000, .trans 1 1 3⟩, ⟨20000000, .flag 1 false false 0 0⟩,
  ⟨700000000, .extDelete "g" 2⟩ ]

example : (match Cand.run {} lazyFollower with | .ok _ => false | .error _ => true) = true := by decide

/-- AST fact: every run gets its own watch loop — `Start` clears the "watcher running" flag, as the stop calls do (a loop
    of the previous run may still be inside a slow store call when the next run begins). -/
theorem watcher_per_run_shape : Gen.startResetsWatcherFlag = true := by decide

end NLE.Theorems.C06
