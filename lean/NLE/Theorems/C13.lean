import NLE.Proofs.OwnInv
import NLE.Gen.Shape
import NLE.Theorems.C03
import NLE.Theorems.C04
/-!
# C13 — arbitrary record contents and outside interference never crash, hang or promote

* Termination: one acquisition attempt issues at most three store operations (Create, Get, Update) whatever the
  record holds — the attempt is a straight-line decision, and the regenerated call graph shows that neither
  `attemptAcquire` nor `attemptPriorityTakeover` can reach itself.  Every retry is paced by a timer (round jitter and
  backoff: C17; periodic check: 500 ms).  On the implementation, panics, stack overflows, hangs and store
  hammering are detected by the harness (process exit status, watchdog, `C13/store-hammering`, `C13/panic`).
* Claim: the flag is raised only with the token of an acquiring write of the same instance that the store applied
  and acknowledged — whatever bytes the record held before and whoever rewrote it in between.
* A leader whose record was tampered with: its refresh is refused (permanent error, C03) and `ValidateToken` is
  negative (C04).
-/
namespace NLE.Theorems.C13
open NLE NLE.Own

/-- Store operations of one `attemptAcquire` call as a function of the answers it gets: `Create`; if that fails and
    takeover is enabled (priority > 0): `Get`; if the record parses and its priority is strictly lower: `Update`. -/
def attemptOps (takeover : Bool) (createOk : Bool) (getRes : Option Val) (prio : Int) : List OpKind :=
  if createOk then [.create]
  else if !takeover then [.create]
  else match getRes with
    | none => [.create, .get]
    | some v => if outranks prio v then [.create, .get, .update] else [.create, .get]

/-- At most three store operations per attempt, for every record value (any bytes, as read by both decoders). -/
theorem attempt_at_most_three_ops (takeover createOk : Bool) (getRes : Option Val) (prio : Int) :
    (attemptOps takeover createOk getRes prio).length ≤ 3 := by
  cases createOk <;> cases takeover <;> cases getRes <;> simp [attemptOps]
  split <;> simp

/-- An unparsable record (struct decoder fails) is never preempted and never makes the attempt loop. -/
theorem unparsable_record_no_update (prio : Int) (v : View) (h : v.structOk = false) :
    attemptOps true false (some (.raw v)) prio = [.create, .get] := by
  simp [attemptOps, outranks, storedPrio, Val.structView, h]

/-- The acquisition path cannot reach itself (regenerated call graph): `attemptAcquire` is called only by `Start`, a
    retry round and the watcher's takeover goroutine; `attemptPriorityTakeover` only by `attemptAcquire`; `Create` only
    by `attemptAcquire`; `Update` only by the takeover path and the heartbeat loop. -/
theorem no_recursion_in_acquisition :
    Gen.attemptAcquireCallers = ["kvElection.Start", "kvElection.attemptAcquireWithRetry", "kvElection.handleWatchEvent"] ∧
    Gen.attemptPriorityTakeoverCallers = ["kvElection.attemptAcquire"] ∧
    Gen.kvCreateCallers = ["kvElection.attemptAcquire"] ∧
    Gen.kvUpdateCallers = ["kvElection.attemptPriorityTakeover", "kvElection.heartbeatLoop"] :=
  ⟨rfl, rfl, rfl, rfl⟩

/-- Claim clause: whenever the model raises the flag of an instance with token `tok` (a new term), that instance
    has an acknowledged acquiring write with exactly that token; in every reachable state a claiming instance's
    token is the token of a record it wrote itself. -/
theorem flag_needs_own_acknowledged_write {s s' : State} {i tok : Nat} {x : Inst} (hx : s.insts i = some x)
    (hnew : x.lead ≠ some tok) (h : stepFlag s i true tok = .ok s') : ∃ rev, (tok, rev) ∈ x.acked := by
  obtain ⟨hn, -⟩ | ⟨y, hy, ⟨-, hl, -⟩ | ⟨hf, -⟩ | ⟨rev, -, -, hm, -⟩⟩ := stepFlag_ok h
  · rw [hx] at hn; cases hn
  all_goals obtain rfl := Option.some.inj (hx.symm.trans hy)
  · exact absurd hl hnew
  · cases hf
  · exact ⟨rev, hm⟩

theorem claim_backed_by_own_write {evs : List TEv} {s : State} (h : run {} evs = .ok s)
    (i : Nat) (x : Inst) (tok : Nat) (hx : s.insts i = some x) (hl : x.lead = some tok) :
    OwnWrite s i x.cfg.key x.hbRev tok :=
  (reachable_inv h).leadOwn i x tok hx hl

/-- A leader whose record was overwritten or deleted by an outside party: its next refresh is refused with a
    permanent error (so it demotes at once, C03) and `ValidateToken` is negative for any record that does not carry
    its id and token (C04). -/
theorem tampered_leader_is_demoted :
    HB.outcomeOf (.err .wrongseq) = .permanent ∧ HB.outcomeOf (.err .notfound) = .permanent ∧
    (∀ c : Validate.Call, (∃ v, c.get = .entry v ∧ (v.ok = false ∨ v.token ≠ .str c.localTok ∨ v.id ≠ .str c.me)) →
      Validate.validateToken c = false) :=
  ⟨C03.refused_refresh_is_permanent.1, C03.refused_refresh_is_permanent.2,
   fun c h => C04.failsafe c (Or.inr (Or.inr (Or.inr (Or.inr (Or.inr h)))))⟩

end NLE.Theorems.C13
