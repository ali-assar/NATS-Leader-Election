import NLE.Gen.Shape
import NLE.Gen.Locks
import NLE.Model.LockSem
/-!
# C20 — the public API is free of data races (lock discipline)

`NLE/Gen/Locks.lean` is regenerated from the source on every run: every syntactic access to a field of the three
structs that carry the library's shared state (`kvElection`, `disconnectHandler`, `natsConnectionMonitor`), with the
mutexes certainly held there (must-hold analysis inside each function, entry locksets propagated over the package's
call graph, goroutine and callback bodies starting with nothing held).  Fields of `sync` / `sync/atomic` types and fields
never written after construction are race-free by themselves; the theorems below are about the remaining, mutable
fields.

* `LockSem.conflicting_accesses_ordered` (proved for every execution of a reader/writer mutex): two accesses by
  different goroutines that both hold the mutex, at least one exclusively, are separated by a release of the one and
  an acquisition by the other — the happens-before edge of the Go memory model.
* `writes_exclusive`, `reads_locked`: on the current tree every write of a mutable field holds its struct's mutex
  exclusively and every read holds it at least shared; `ctx_unlocked_readers`: no function reads the election context
  without the mutex (before the repair of finding R4 twelve functions did: goroutines of an earlier run raced with the
  `Start` that follows a stop call which gave up waiting).
The search side is the concurrent API driver under the Go race detector (`harness/race_mode.go`).
-/
namespace NLE.Theorems.C20
open NLE

/-- Every write of a mutable field holds the owning struct's mutex exclusively. -/
theorem writes_exclusive : (Gen.lockAccesses.all fun a => !a.write || a.held == 2) = true := by decide +kernel

/-- Every read of a mutable field holds the owning struct's mutex (shared or exclusive). -/
theorem reads_locked : (Gen.lockAccesses.all fun a => a.write || decide (a.held ≥ 1)) = true := by decide +kernel

/-- In particular no function reads the election context `kvElection.ctx` without the mutex (goroutines of a run get the
    context as a parameter or through the locked accessor `runContext`). -/
theorem ctx_unlocked_readers :
    ((Gen.lockAccesses.filter fun a => a.struct == "kvElection" && a.field == "ctx" && a.held == 0).map (·.fn)) = [] := by
  decide +kernel

/-- The fields the discipline is about (everything else is a sync type or immutable after construction). -/
theorem mutable_fields : (Gen.lockFields.filter (·.2.2 == "mutable")).map (fun x => (x.1, x.2.1)) =
    [("kvElection", "cancel"), ("kvElection", "ctx"), ("kvElection", "onDemote"), ("kvElection", "onPromote"),
     ("kvElection", "promoteStarted"), ("kvElection", "stopped"), ("kvElection", "stopping"), ("kvElection", "termCancel"),
     ("kvElection", "windingDown"),
     ("disconnectHandler", "disconnectedAt"), ("disconnectHandler", "timer"),
     ("natsConnectionMonitor", "cancel"), ("natsConnectionMonitor", "ctx"), ("natsConnectionMonitor", "disconnectHandler"),
     ("natsConnectionMonitor", "reconnectHandler")] := by rfl

/-- Conflicting pairs: any two accesses to the same mutable field, at least one of them a write, both hold the struct's
    mutex and the writer holds it exclusively — the hypotheses of `LockSem.conflicting_accesses_ordered`. -/
theorem conflicting_pairs_protected (a b : Gen.LockAccess) (ha : a ∈ Gen.lockAccesses) (hb : b ∈ Gen.lockAccesses)
    (hw : a.write = true ∨ b.write = true) :
    a.held ≥ 1 ∧ b.held ≥ 1 ∧ ((a.write = true ∧ a.held = 2) ∨ (b.write = true ∧ b.held = 2)) := by
  have W := List.all_eq_true.mp writes_exclusive
  have R := List.all_eq_true.mp reads_locked
  have held_of (c : Gen.LockAccess) (hc : c ∈ Gen.lockAccesses) : c.held ≥ 1 := by
    have w := W c hc
    have r := R c hc
    cases hcw : c.write with
    | true => simp [hcw] at w; omega
    | false => simpa [hcw] using r
  refine ⟨held_of a ha, held_of b hb, ?_⟩
  rcases hw with h | h
  · have w := W a ha; simp [h] at w; exact Or.inl ⟨h, w⟩
  · have w := W b hb; simp [h] at w; exact Or.inr ⟨h, w⟩

/-- The ordering lemma the discipline rests on, restated here (for every execution of the mutex). -/
theorem mutex_orders_conflicting_accesses {s1 s2 : LockSem.LS} {g1 g2 : Nat} (inv : LockSem.Inv s1) (mid : List LockSem.Ev)
    (hrun : LockSem.run s1 mid = some s2) (h1 : LockSem.holds s1 g1) (h2 : LockSem.holds s2 g2) (hne : g1 ≠ g2)
    (hex : LockSem.holdsW s1 g1 ∨ LockSem.holdsW s2 g2) :
    ∃ a r b q c, mid = a ++ r :: (b ++ q :: c) ∧ LockSem.isRelBy g1 r ∧ LockSem.isAcqBy g2 q :=
  LockSem.conflicting_accesses_ordered inv mid hrun h1 h2 hne hex

/-- Shared memory that is not a field of the three structs: no goroutine started by a `go` statement assigns a variable
    of the function that started it (results come back over channels).  Regenerated from the source on every run. -/
theorem no_closure_writes_to_outer_variables : Gen.goClosureOuterWrites = [] := by decide +kernel

/-- The election's WaitGroup: `Add` must be ordered with the `Wait` of a stop call (an `Add` from zero that races a `Wait`
    is a misuse the race detector reports).  Every `Add` is made with the election's mutex held exclusively - the stop
    call's critical section, which ends the run, comes before its `Wait` - except in the two functions that run on the
    watch loop's goroutine, which the WaitGroup already counts.  Regenerated from the source on every run. -/
theorem waitgroup_adds_ordered_with_stop :
    (Gen.wgAdds.all fun a => a.2.2.1 == 2 || a.2.1 == "kvElection.checkKeyAndReelect" || a.2.1 == "kvElection.handleWatchEvent") = true ∧
    (Gen.wgAdds.map (·.2.1)).contains "kvElection.handleReconnect" = true := by decide +kernel

/-! Non-vacuity of the ordering lemma: writer 1, then reader 2. -/
example : LockSem.run {} [.acqW 1, .acc 1 true, .relW 1, .acqR 2, .acc 2 false] = some { writer := none, readers := [2] } := by decide
/-- Without the release the second goroutine cannot get in. -/
example : LockSem.run {} [.acqW 1, .acc 1 true, .acqR 2] = none := by decide

end NLE.Theorems.C20
