import NLE.Theorems.C01
import NLE.Proofs.PromptInv
/-!
# C10 — priority takeover preempts only strictly lower priority, and promptly

Safety is proved in the ownership model.  Promptness (a higher-priority, takeover-enabled follower leads within
three heartbeat intervals) is proved in the timed model `NLE.Prompt` of the mechanism — the incumbent's refresh
cadence, notification of every refresh, "second notification of a known owner starts a takeover attempt" — and
validated end-to-end on implementation traces by the monitor `C10/takeover-not-prompt`; the model's assumptions
about the watcher are not tied to the code by an acceptor (partial).
-/
namespace NLE.Theorems.C10
open NLE NLE.Own

/-- An instance replaces another instance's live record only if takeover is enabled in its own
    configuration and its priority is strictly greater than the priority stored in that record — for
    every configuration of priorities and flags and every timing. -/
theorem preempts_only_strictly_lower {evs : List TEv} {s : State} (h : run {} evs = .ok s)
    (m : Mut) (hm : m ∈ s.hist) (hw : m.who ≠ 0) (old : Rec) (hb : m.before = some old) (hforeign : old.writer ≠ m.who)
    (hk : m.kind = .create ∨ m.kind = .refresh ∨ m.kind = .takeover) :
    ∃ x, s.insts m.who = some x ∧ x.cfg.takeover = true ∧
      (∃ p, storedPrio old.val = some p ∧ x.cfg.prio > p) := by
  obtain ⟨x, hx, htk, hout, _⟩ := C01.foreign_record_only_by_takeover h m hm hw old hb hforeign hk
  cases hp : storedPrio old.val <;> simp only [outranks, hp, decide_eq_true_eq, Bool.false_eq_true] at hout
  exact ⟨x, hx, htk, _, rfl, hout⟩

/-- With takeover disabled an instance never replaces a foreign record. -/
theorem no_takeover_when_disabled {evs : List TEv} {s : State} (h : run {} evs = .ok s)
    (m : Mut) (hm : m ∈ s.hist) (hw : m.who ≠ 0) (x : Inst) (hx : s.insts m.who = some x) (hoff : x.cfg.takeover = false)
    (old : Rec) (hb : m.before = some old) (hk : m.kind = .create ∨ m.kind = .refresh ∨ m.kind = .takeover) :
    old.writer = m.who := by
  by_cases hf : old.writer = m.who
  · exact hf
  · obtain ⟨x', hx', htk, _⟩ := preempts_only_strictly_lower h m hm hw old hb hf hk
    rw [hx] at hx'; cases hx'
    rw [hoff] at htk; cases htk

/-- Non-vacuity: the takeover in `C01.f10Trace` replaces a record of priority 1 by an instance of priority 2. -/
example : (match run {} C01.f10Trace with
    | .ok s => s.hist.any (fun m => m.kind == .takeover && m.who == 2)
    | .error _ => false) = true := by decide

/-! ### Promptness -/

open NLE.Prompt in
/-- In every execution of the mechanism with `W + 4L < H`, as long as the follower does not lead the clock has not
    passed `since + 2(H+L) + W + 3L`: two refresh intervals of the incumbent (the first notification makes the owner
    known, the second starts the attempt), one notification delay, one attempt. -/
theorem takeover_within_bound (p : Prompt.Par) (hpar : p.W + 4 * p.L < p.H) (t0 hb : Nat) (pend known : Bool)
    (hhb : hb ≤ t0) (hdue : t0 ≤ hb + p.H + p.L) (hp : pend = true → t0 ≤ hb + p.W)
    (acts : List Prompt.Act) (s : Prompt.St) (h : Prompt.run p (Prompt.init t0 hb pend known) acts = some s)
    (hl : s.lead = false) : s.now ≤ s.since + Prompt.bound p := by
  have inv := Prompt.run_inv hpar (Prompt.inv_init p t0 hb pend known hhb hdue hp) acts h
  exact Nat.le_trans (Prompt.now_le_dl inv hl) (inv.progress hl)

/-- `since` never changes: it is the instant the follower became eligible. -/
theorem since_fixed (p : Prompt.Par) (t0 hb : Nat) (pend known : Bool) (acts : List Prompt.Act) (s : Prompt.St)
    (h : Prompt.run p (Prompt.init t0 hb pend known) acts = some s) : s.since = t0 :=
  Fold.option_inv (I := fun s => s.since = t0) (fun _ => rfl) (Prompt.run_cons p)
    (fun hs h => (Prompt.step_frame h).1.trans hs) acts rfl h

/-- With operation latency and notification delay up to a tenth of the heartbeat interval the bound is below three
    intervals. -/
theorem within_three_intervals (p : Prompt.Par) (hL : 10 * p.L ≤ p.H) (hW : 10 * p.W ≤ p.H) (hH : 0 < p.H) :
    p.W + 4 * p.L < p.H ∧ Prompt.bound p < 3 * p.H := by
  unfold Prompt.bound
  constructor <;> omega

/-! Non-vacuity: H = 1000, L = W = 100; the follower becomes eligible right after a refresh and leads at 2 600. -/
def p0 : Prompt.Par := { H := 1000, L := 100, W := 100 }
example : (match Prompt.run p0 (Prompt.init 0 0 false false)
      [.advance 1100, .hbApply, .advance 1200, .deliver, .advance 2200, .hbApply, .advance 2300, .deliver, .advance 2600, .attemptEnd] with
    | some s => s.lead && s.now == 2600 && decide (s.now = s.since + Prompt.bound p0) | none => false) = true := by decide
/-- The clock cannot pass a stage's deadline. -/
example : Prompt.run p0 (Prompt.init 0 0 false false) [.advance 1101] = none := by decide

end NLE.Theorems.C10
