import NLE.Proofs.OwnInv
import NLE.Gen.Shape
/-!
# C01 — the leadership record is changed only by its owner or a legitimate successor

Model: `NLE/Model/Own.lean` (tied to the code by trace acceptance on every run).  The theorems
quantify over every event sequence the model accepts: any number of instances and groups, any
interleaving of issue / application / answer of store operations, lost acknowledgements, faults,
outside writers, expiry, stops and restarts.
-/
namespace NLE.Theorems.C01
open NLE NLE.Own

/-- Every successful creation or update of a record by an instance is legitimate: creation while no
    live record exists; a refresh by the writer of the previous version, against exactly that revision,
    republishing the same identity and fencing token; or a revision-checked replacement by an instance
    with takeover enabled whose priority is strictly greater than the one stored in the replaced record.
    And it is on the instance's own group's key. -/
theorem writes_legit {evs : List TEv} {s : State} (h : run {} evs = .ok s) :
    ∀ m ∈ s.hist, m.who ≠ 0 → ∃ x, s.insts m.who = some x ∧ Legit x.cfg m :=
  (reachable_inv h).histLegit

/-- Elections for different groups in one bucket never touch each other's records (any kind of change,
    deletions included). -/
theorem own_group_only {evs : List TEv} {s : State} (h : run {} evs = .ok s) :
    ∀ m ∈ s.hist, m.who ≠ 0 → ∃ x, s.insts m.who = some x ∧ m.key = x.cfg.key := by
  intro m hm hw
  obtain ⟨x, hx, hl⟩ := writes_legit h m hm hw
  exact ⟨x, hx, hl.1⟩

/-- No instance overwrites or refreshes a record that another instance owns, other than by legitimate
    preemption: if the replaced version was written by somebody else, the change is a takeover by an
    instance with takeover enabled and strictly higher priority (this is also C10's safety clause). -/
theorem foreign_record_only_by_takeover {evs : List TEv} {s : State} (h : run {} evs = .ok s)
    (m : Mut) (hm : m ∈ s.hist) (hw : m.who ≠ 0) (old : Rec) (hb : m.before = some old) (hforeign : old.writer ≠ m.who)
    (hk : m.kind = .create ∨ m.kind = .refresh ∨ m.kind = .takeover) :
    ∃ x, s.insts m.who = some x ∧ x.cfg.takeover = true ∧ outranks x.cfg.prio old.val = true ∧ old.rev = m.exp := by
  obtain ⟨x, hx, _, hl⟩ := writes_legit h m hm hw
  have hid := (reachable_inv h).idOK m.who x hx
  rcases hk with hk | hk | hk <;> rw [hk] at hl <;> dsimp only at hl
  · rw [hl.1] at hb; cases hb
  · obtain ⟨old', _, _, _, hb', _, hwr, _⟩ := hl
    rw [hb'] at hb; cases hb
    exact absurd (hwr.trans hid) hforeign
  · obtain ⟨old', _, _, hb', hexp, htk, hout, _⟩ := hl
    rw [hb'] at hb; cases hb
    exact ⟨x, hx, htk, hout, hexp⟩

/-- A refresh presents exactly the revision of the version it replaces, which the refreshing instance
    wrote itself with the same token. -/
theorem refresh_same_token {evs : List TEv} {s : State} (h : run {} evs = .ok s)
    (m : Mut) (hm : m ∈ s.hist) (hw : m.who ≠ 0) (hk : m.kind = .refresh) :
    ∃ old r tok p p', m.before = some old ∧ m.after = some r ∧ old.rev = m.exp ∧ old.writer = m.who ∧
      old.val = .own m.who tok p ∧ r.val = .own m.who tok p' := by
  obtain ⟨x, hx, _, hl⟩ := writes_legit h m hm hw
  have hid := (reachable_inv h).idOK m.who x hx
  rw [hk] at hl; dsimp only at hl
  obtain ⟨old, tok, p, r, hb, hexp, hwr, hov, ha, hrv⟩ := hl
  exact ⟨old, r, tok, p, x.cfg.prio, hb, ha, hexp, hwr.trans hid, by rw [hov, hid], by rw [hrv, hid]⟩

/-! ### Deletion (known finding F10)

The model — like the code — lets `StopWithContext{DeleteKey}` delete the key unconditionally.  The
following execution of the model deletes the live record of another instance: instance 1 (priority 1)
leads, instance 2 (priority 2, takeover) preempts it, and instance 1's graceful shutdown, begun before it
noticed, deletes instance 2's record. -/

def cfg1 : InstCfg := { id := 1, key := "g", prio := 1, takeover := false, hb := 1000000000, ttl := 3000000000, val := 0,
                        grace := 0, maxFail := 0, hasHealth := false, connMon := false, storeTTL := 3000000000, callbacks := true }
def cfg2 : InstCfg := { cfg1 with id := 2, prio := 2, takeover := true }

def f10Trace : List TEv := [
  ⟨0, .inst cfg1⟩, ⟨0, .inst cfg2⟩,
  ⟨1, .call 1 1 .create "g" 0 (.own 1 1 1)⟩, ⟨2, .apply 1 (.ok 1)⟩, ⟨3, .ret 1 (.ok 1 none)⟩, ⟨3, .flag 1 true true 1 1⟩,
  ⟨10, .call 2 2 .create "g" 0 (.own 2 2 2)⟩, ⟨11, .apply 2 (.fail .exists_)⟩, ⟨12, .ret 2 (.err .exists_)⟩,
  ⟨13, .call 3 2 .get "g" 0 .empty⟩, ⟨14, .apply 3 (.ok 1)⟩, ⟨15, .ret 3 (.ok 1 (some (.own 1 1 1)))⟩,
  ⟨16, .call 4 2 .update "g" 1 (.own 2 3 2)⟩, ⟨17, .apply 4 (.ok 2)⟩,
  ⟨18, .api 1 1 (.stopctx true false 0 0)⟩, ⟨18, .flag 1 false false 1 1⟩,
  ⟨19, .call 5 1 .delete "g" 0 .empty⟩, ⟨20, .apply 5 (.ok 3)⟩ ]

/-- The model accepts the trace, and its last mutation is a deletion by instance 1 of a record written by instance 2. -/
theorem delete_counterexample :
    (match run {} f10Trace with
     | .ok s => (match s.hist.head? with
        | some m => m.who == 1 && m.kind == .delete && (match m.before with | some r => r.writer == 2 | none => false)
        | none => false)
     | .error _ => false) = true := by decide +kernel

/-- The part of the deletion clause that does hold: an instance issues a Delete only inside its own
    `StopWithContext{DeleteKey}`, and only if that call found it leading or an acquiring write of it was acknowledged
    after its run had ended (a stop call had begun or the context passed to Start was cancelled: the promotion is
    refused and the record is an orphan) — never as a follower that owned nothing (the seeded changes C01-2 / C02-1 break this guard and
    are rejected by the acceptor at the Delete's call). -/
theorem delete_only_in_owner_shutdown {s s' : State} {t op i exp : Nat} {key : String} {val : Val}
    (h : stepCall s t op i .delete key exp val = .ok s') :
    ∃ x, s.insts i = some x ∧ x.stopDel.isSome = true ∧ (x.stopOwner = true ∨ x.awd = true) ∧ key = x.cfg.key := by
  obtain ⟨x, p, u, hx, -, hkey, -, -, -, -, hd, hi, -⟩ := stepCall_ok h
  cases hi with
  | delete _ h1 h2 => exact ⟨x, hx, h1, h2, hkey⟩
  | create h' | heartbeat h' | takeover h' | other h' => rw [hd rfl] at h'; cases h'

/-- What the model assumes about the code, as facts regenerated from the AST: the revision field is written only by
    `becomeLeader`, the heartbeat loop, `observeLeader` (which drops observations while leading) and the constructor;
    the heartbeat presents that field and re-checks the term after the health check; `Delete` is issued only by
    `StopWithContext`; the takeover path needs the flag, a positive priority and a strictly lower stored priority. -/
theorem shape :
    Gen.revisionWriters = ["kvElection.becomeLeader", "kvElection.heartbeatLoop", "kvElection.observeLeader", "newKVElection"] ∧
    Gen.observeLeaderGuarded = true ∧ Gen.heartbeatPresentsRevisionField = true ∧ Gen.heartbeatRechecksTerm = true ∧
    Gen.kvDeleteCallers = ["kvElection.StopWithContext"] ∧ Gen.takeoverStrictPriority = true ∧
    Gen.takeoverNeedsFlagAndPositivePriority = true ∧
    Gen.kvUpdateCallers = ["kvElection.attemptPriorityTakeover", "kvElection.heartbeatLoop"] :=
  ⟨rfl, rfl, rfl, rfl, rfl, rfl, rfl, rfl⟩

end NLE.Theorems.C01
